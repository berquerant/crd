import Crd.Float.Ticks
import Crd.Model.Play

/-!
# C02, rounding clause — "every instance occupies round(T × v) ticks … (either neighbour when exactly halfway)"

Proved over ℚ about the soft-float model of Go's arithmetic (`Crd/Model/F64.lean`, bit-compared with Go by the
`ticks` stream): each operation is one rounding to 53 bits; n+4 roundings accumulate to a relative error below
2(n+4)·2⁻⁵²; a value closer to N/D than 1/(2D) rounds to the nearest integer of N/D.  Mathlib is imported by this
proof module only (never by the model or the driver).

The hypothesis `4·(n+4)·N < 2^52` (N/D = T·v over any common denominator D of the written fractions) is not
decoration: without it the statement is false of the code, `float_rounding_can_miss` (D17, a known finding).
-/
namespace Crd.Props.C02
open Crd Crd.Generated

/-- **the length of an instance is the nearest integer of T·v** for every list of valid duration fractions whose
common denominator D and total satisfy `4·(n+4)·(T·v·D) < 2^52` — e.g. any 12 fractions with denominators dividing
5040 up to 2^28 ticks in total.  At an exact half either neighbour (the property allows both). -/
theorem instance_length_is_nearest (vs : List Rat') (hne : vs ≠ []) (D : Nat) (hD : 0 < D)
    (hv : ∀ r ∈ vs, r.valid = true ∧ r.den ∣ D)
    (hsafe : 4 * (4 + vs.length) * numOver ticksPerQuarter D (vs.map fun r => (r.num, r.den)) < 2 ^ 52) :
    let N := numOver ticksPerQuarter D (vs.map fun r => (r.num, r.den))
    goTicks vs = (2 * N + D) / (2 * D) ∨ ((2 * N + D) % (2 * D) = 0 ∧ goTicks vs + 1 = (2 * N + D) / (2 * D)) := by
  refine ticks_nearest ticksPerQuarter (by decide) _ (by simpa using hne) D hD ?_ (by simpa using hsafe)
  refine List.forall_mem_map.mpr fun r hr => ?_
  obtain ⟨hval, hdvd⟩ := hv r hr
  simp only [Rat'.valid, Bool.and_eq_true, decide_eq_true_eq] at hval
  exact ⟨hval.2, hval.1, hdvd⟩

/-- N/D really is T·v -/
theorem numOver_is_exact (vs : List Rat') (D : Nat) (hD : 0 < D) (hv : ∀ r ∈ vs, r.valid = true ∧ r.den ∣ D) :
    ((numOver ticksPerQuarter D (vs.map fun r => (r.num, r.den)) : Nat) : ℚ) / D =
      (ticksPerQuarter : ℚ) * (vs.map fun r => (r.num : ℚ) / r.den).sum := by
  rw [numOver_eq ticksPerQuarter D hD _ (List.forall_mem_map.mpr fun r hr => (hv r hr).2)]
  simp [sumQ, List.map_map, Function.comp_def]

/-- **the full-strength statement (no bound on the denominators) is false of the code** — a concrete piece below
2^28 ticks whose length is one tick off the nearest integer (D17; replayed on the real binary as a KNOWN-FINDING) -/
theorem float_rounding_can_miss :
    goTicks [⟨104, 65⟩, ⟨433505365742, 1099511627776⟩, ⟨108037, 3⟩] = 34573755 ∧
    (let D := 65 * 1099511627776 * 3
     let N := numOver ticksPerQuarter D [(104, 65), (433505365742, 1099511627776), (108037, 3)]
     (2 * N + D) / (2 * D) = 34573754 ∧ (2 * N + D) % (2 * D) ≠ 0) := by decide

example : goTicks [⟨1, 9⟩, ⟨1, 9⟩] = 213 := by
  have h := instance_length_is_nearest [⟨1, 9⟩, ⟨1, 9⟩] (by simp) 9 (by norm_num)
    (by intro r hr; simp at hr; subst hr; exact ⟨by decide, dvd_refl _⟩) (by decide)
  simp only [numOver] at h
  norm_num [ticksPerQuarter] at h
  exact h

end Crd.Props.C02
