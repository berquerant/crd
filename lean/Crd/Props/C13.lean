import Crd.Lemmas.Scale
import Crd.Spec.Theory

/-!
# C13 — every supported key has the right scale and the right key signature

"For every key crd supports — at least the fifteen major keys from seven flats to seven sharps and the
thirteen minor keys Am Em Bm F#m C#m G#m D#m Dm Gm Cm Fm Bbm Ebm — the seven scale notes use each letter once
starting on the tonic and follow the major (2-2-1-2-2-2-1) or natural-minor (2-1-2-2-1-2-2) step pattern, and
the reported number of sharps or flats is the conventional signature of that key, with the altered notes being
the first n of F C G D A E B (sharps) or B E A D G C F (flats).  Relative major/minor pairs therefore share
notes and signature."

A key has a scale only if the signature table lists it (`newScale_isSome_iff`), and the table lists the 28 named
keys and no other; so each clause is decided by kernel evaluation of the model (`newScale`, over the REGENERATED
`keyStringSignatures` / `flatSequence` / ring) on those 28 and lifted to `∀ k : Key`.  The right-hand sides come from
`Crd.Spec.Theory` (line of fifths), not from crd's table.
-/
namespace Crd.Props.C13
open Crd Crd.Spec

/-- the keys the property names -/
def requiredKeys : List Key :=
  [ -- fifteen major keys, seven flats .. seven sharps
    ⟨.C, false, .flat⟩, ⟨.G, false, .flat⟩, ⟨.D, false, .flat⟩, ⟨.A, false, .flat⟩, ⟨.E, false, .flat⟩,
    ⟨.B, false, .flat⟩, ⟨.F, false, .natural⟩, ⟨.C, false, .natural⟩, ⟨.G, false, .natural⟩, ⟨.D, false, .natural⟩,
    ⟨.A, false, .natural⟩, ⟨.E, false, .natural⟩, ⟨.B, false, .natural⟩, ⟨.F, false, .sharp⟩, ⟨.C, false, .sharp⟩,
    -- thirteen minor keys
    ⟨.A, true, .natural⟩, ⟨.E, true, .natural⟩, ⟨.B, true, .natural⟩, ⟨.F, true, .sharp⟩, ⟨.C, true, .sharp⟩,
    ⟨.G, true, .sharp⟩, ⟨.D, true, .sharp⟩, ⟨.D, true, .natural⟩, ⟨.G, true, .natural⟩, ⟨.C, true, .natural⟩,
    ⟨.F, true, .natural⟩, ⟨.B, true, .flat⟩, ⟨.E, true, .flat⟩ ]

def pitch (n : SNote) : Int := naturalPitch n.name + accShift n.acc

/-- consecutive pitch differences, wrapping to the tonic, modulo 12 -/
def steps (notes : List SNote) : List Int :=
  (notes.zip (notes.drop 1 ++ notes.take 1)).map fun (a, b) => (pitch b - pitch a).emod 12

/-- the signature table's keys are the 15 + 13 named keys -/
theorem supported_perm_required : supportedKeys.Perm requiredKeys := by decide +kernel

/-- at least the 15 + 13 named keys are supported -/
theorem supports_required : ∀ k ∈ requiredKeys, (newScale k).isSome = true :=
  fun _ hk => newScale_isSome_iff.mpr (supported_perm_required.mem_iff.mpr hk)

theorem required_of_newScale {k : Key} {s : Scale} (h : newScale k = some s) : k ∈ requiredKeys :=
  supported_perm_required.mem_iff.mp (newScale_isSome_iff.mp (Option.isSome_of_eq_some h))

/-- and nothing else: every other spelling `[A-G][#b]?m?` (and every ill-formed key) has no scale -/
theorem unsupported_rejected : ∀ k : Key, k ∉ requiredKeys → newScale k = none := by
  intro k hk
  cases h : newScale k with
  | none => rfl
  | some s => exact absurd (required_of_newScale h) hk

def onScale (P : Key → Scale → Bool) (k : Key) : Bool :=
  match newScale k with | some s => P k s | none => true

/-- a fact about every scale is a fact about the scales of the 28 keys: a table to evaluate -/
theorem lift {P : Key → Scale → Bool} (h : ∀ k ∈ requiredKeys, onScale P k = true) :
    ∀ (k : Key) (s : Scale), newScale k = some s → P k s = true := by
  intro k s hs
  simpa [onScale, hs] using h k (required_of_newScale hs)

/-- seven notes, each letter once, in letter order starting on the tonic (letter and accidental) -/
theorem letters_once_from_tonic : ∀ (k : Key) (s : Scale), newScale k = some s →
    (s.notes.map (·.name) == lettersFrom k.name && s.notes.head? == some ⟨k.name, k.acc⟩ && s.key == k) = true :=
  lift (by decide +kernel)

theorem scale_head {k : Key} {s : Scale} (hs : newScale k = some s) : s.notes.head? = some ⟨k.name, k.acc⟩ := by
  have h := letters_once_from_tonic k s hs
  simp only [Bool.and_eq_true, beq_iff_eq] at h
  exact h.1.2

/-- the step pattern 2-2-1-2-2-2-1 (major) / 2-1-2-2-1-2-2 (natural minor) -/
theorem step_pattern : ∀ (k : Key) (s : Scale), newScale k = some s →
    (steps s.notes == (if k.minor then minorSteps else majorSteps)) = true :=
  lift (by decide +kernel)

/-- the reported count of sharps/flats is the conventional signature (line of fifths), never both -/
theorem signature_conventional : ∀ (k : Key) (s : Scale), newScale k = some s →
    (((s.sharp : Int) - (s.flat : Int) == conventionalSignature k) && (s.sharp == 0 || s.flat == 0)) = true :=
  lift (by decide +kernel)

/-- the altered notes are exactly the first n of F C G D A E B (sharps) / B E A D G C F (flats) -/
theorem altered_are_first_n : ∀ (k : Key) (s : Scale), newScale k = some s →
    (s.notes.all fun n =>
      n.acc == (if (orderOfSharps.take s.sharp).contains n.name then Acc.sharp
                else if (orderOfFlats.take s.flat).contains n.name then Acc.flat else Acc.natural)) = true :=
  lift (by decide +kernel)

/-- relative pairs: for every supported minor key, the major key on its third note is supported and has the
same notes (rotated) and the same signature; and whenever the minor key on the sixth note of a supported major
key is itself supported (Cb and C# major have no supported relative) it shares notes and signature -/
theorem relative_pairs_share : ∀ (k : Key) (s : Scale), newScale k = some s →
    (if k.minor then
      (match s.notes[2]? with
       | some t => (match newScale ⟨t.name, false, t.acc⟩ with
         | some r => r.notes == s.notes.drop 2 ++ s.notes.take 2 && r.sharp == s.sharp && r.flat == s.flat
         | none => false)
       | none => false)
     else
      (match s.notes[5]? with
       | some t => (match newScale ⟨t.name, true, t.acc⟩ with
         | some r => r.notes == s.notes.drop 5 ++ s.notes.take 5 && r.sharp == s.sharp && r.flat == s.flat
         | none => true)
       | none => false)) = true :=
  lift (by decide +kernel)

example : newScale ⟨.E, false, .flat⟩ = some ⟨⟨.E, false, .flat⟩,
    [⟨.E, .flat⟩, ⟨.F, .natural⟩, ⟨.G, .natural⟩, ⟨.A, .flat⟩, ⟨.B, .flat⟩, ⟨.C, .natural⟩, ⟨.D, .natural⟩], 3, 0⟩ := by decide
example : conventionalSignature ⟨.G, true, .sharp⟩ = 5 := by decide
example : requiredKeys.length = 28 := by decide

end Crd.Props.C13
