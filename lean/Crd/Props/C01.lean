import Crd.Lemmas.Piece
import Crd.Lemmas.Dict

/-!
# C01 — write: every chord sounds exactly the pitches its degree, symbol and bass denote

"For every instances document whose chords stay inside the MIDI range, `crd write` emits for each chord exactly
one note-on per chord tone and one for the bass, and nothing else: the root is middle C plus the current key's
tonic plus the interval named by the chord's degree, the tones are the root plus each interval of the chord
symbol's definition (inherited ones included), and the bass is root plus the `base` interval (unison if absent)
one octave down.  The key in force is the most recent `key` at or before the chord (C, or the --key flag, at the
start)."

Any list length, any interval number, any dictionary accepted by `newDict` (built-in or user supplied), any of
the supported keys, any track count.
-/
namespace Crd.Props.C01
open Crd Crd.Generated Crd.Props.C06

def isNoteOn (e : LogE) : Bool := match e.2.2 with | .noteOn _ _ _ => true | _ => false

/-- the pitches of one chord (integers, bass first): root = 60 + tonic + degree; bass one octave below
root + bass interval; each tone = root + its interval.  In `uint8` arithmetic always; without wrap inside the
MIDI range -/
theorem chord_pitches (d : Dict) (k : Key) (c : ChordIn) (keys : List Nat) (h : applyChord d k c = .ok keys) :
    ∃ (attrs : List Attr) (tonic deg bass : Int) (tones : List Int),
      d.chordAttrs ((d.chord c.name).map (·.name) |>.getD c.name) = some attrs ∧
      k.semitone? = some tonic ∧ Spec.specSize c.degree.value c.degree.name = some deg ∧
      (match c.base with | none => bass = 0 | some b => Spec.specSize b.value b.name = some bass) ∧
      attrs.mapM (fun a => a.degree.semitone) = some tones ∧
      ((∀ x ∈ (60 + tonic + deg + bass - 12) :: tones.map (fun s => 60 + tonic + deg + s), 0 ≤ x ∧ x ≤ 127) →
        keys.map (fun (x : Nat) => (x : Int)) = (60 + tonic + deg + bass - 12) :: tones.map (fun s => 60 + tonic + deg + s)) := by
  obtain ⟨attrs, ks, cd, b, ss, h1, h2, h3, h4, h5, h6⟩ := apply_pitches d k c keys h
  refine ⟨attrs, ks, cd, b, ss, h1, h2, semitone_eq_spec _ ▸ h3, ?_, h5, h6⟩
  cases hb : c.base with
  | none =>
    rw [hb, Option.getD_none, default_bass] at h4
    exact (Option.some.inj h4).symm
  | some bd =>
    rw [hb, Option.getD_some, semitone_eq_spec] at h4
    exact h4

/-- the tones of a symbol are its parent's tones (transitively) followed by its own: in every accepted
dictionary (C16) -/
theorem tones_inherit (ua : List Attr) (uc : List ChordDef) (d : Dict) (hd : newDict ua uc = some d)
    (n : String) (c : ChordDef) (hc : d.chord n = some c) (hp : c.parent ≠ "") :
    d.chordAttrs n = some ((d.chordAttrs c.parent).getD [] ++ d.own c) :=
  let ⟨_, _, h, _⟩ := (newDict_wf hd).chordAttrs_parent hc hp; h

/-- every note-on of the reference timeline belongs to exactly the chord instance that strikes it: the
timeline is, instance by instance, [settings, note-ons, note-offs]; settings and note-offs and the writer's
initial events are never note-ons, and a rest contributes none -/
theorem note_ons_by_instance (f : WriteFlags) (d : Dict) (is' : List Instance) :
    (refTimeline f d is').filter isNoteOn =
      (List.range is'.length).flatMap fun j => match is'[j]? with
        | none => []
        | some i => instOns d (keyAt defaultKey is' j) (dynAt defaultVelocity is' j) (startAt goTicks is' j) i := by
  unfold refTimeline
  rw [List.filter_append, show (initLog f.instrument f.program defaultSequenceName).filter isNoteOn = [] from rfl]
  refine pieceLog_filter_by_instance goTicks d isNoteOn is' 0 true _ _ _ fun j i h => ?_
  simp [h, instLog_filter (p := isNoteOn) (s := false) (on := true) (off := false)
    (fun _ c _ hc => by cases c <;> simp [WCall.metaEv] at hc <;> subst hc <;> rfl) (fun _ _ _ _ => rfl) (fun _ _ _ => rfl)]

/-- the note-ons of the chord at instance `j`: one per key of `Key.Apply` in the key in force, all at the
instance's start, with the dynamic in force; `fixedEvs` lists them in order with their routing index -/
theorem instance_note_ons (d : Dict) (k : Key) (v : Dyn) (T : Nat) (i : Instance) (c : ChordIn) (keys : List Nat)
    (hc : i.chord = some c) (ha : applyChord d k c = .ok keys) :
    (instOns d k v T i).map (fun e => (e.1, e.2.2)) = keys.map fun x => (T, Ev.noteOn 0 x (v.velocity % 256)) := by
  rw [instOns_eq, chordKeys_chord hc ha]
  exact fixedEvs_stripT ..

/-- the key in force at instance `j` is the most recent `key` at or before it, else the start key -/
theorem key_in_force (k0 : Key) (is : List Instance) (j : Nat) :
    keyAt k0 is j = (((is.take (j + 1)).filterMap (·.key)).getLast?).getD k0 := rfl

/-- what `--key` does to the instance it is applied to: without the flag the key stays, with it the key is the parsed
flag value; chord and durations stay either way.  That it is applied to the first instance only is
`prepared_tail_unchanged`, the start key `default_key_is_C` -/
theorem flag_key_first_instance_only (f : WriteFlags) (i i' : Instance) (h : overrideFromFlags f i = .ok i') :
    (f.key = "" → i'.key = i.key) ∧ (f.key ≠ "" → i'.key = parseKey f.key.toList ∧ i'.key.isSome) ∧ i'.chord = i.chord ∧ i'.values = i.values := by
  obtain ⟨hf, rfl⟩ := overrideFromFlags_ok.mp h
  refine ⟨fun h => by simp [overridden, h], fun h => ?_, rfl, rfl⟩
  simpa [overridden, h] using hf.key

theorem prepared_tail_unchanged (f : WriteFlags) (i : Instance) (rest : List Instance) (d : Dict) (N : Nat) (is' : List Instance)
    (h : prepareWrite f (i :: rest) = .ok (d, N, is')) : ∃ i', overrideFromFlags f i = .ok i' ∧ is' = i' :: rest := by
  have hp := prepareWrite_ok.mp h
  exact ⟨_, overrideFromFlags_ok.mpr ⟨hp.flags.resolve_left (by simp), rfl⟩, hp.instances⟩

theorem default_key_is_C : defaultKey = ⟨.C, false, .natural⟩ := by decide

/-! non-vacuity: key change at instance 2 and `--key Ebm`; the model plays Ebm: 6th degree minor-seventh over its
fifth, then in A minor -/
def exDoc : List Instance :=
  [{ chord := some ⟨⟨6, .minor⟩, "m7", some ⟨5, .perfect⟩⟩, values := [⟨1, 1⟩] },
   { values := [⟨1, 2⟩] },
   { chord := some ⟨⟨1, .perfect⟩, "", none⟩, values := [⟨1, 1⟩], key := some ⟨.A, true, .natural⟩ }]
example : ((cmdWriteTracks { key := "Ebm" } exDoc).toOption.map fun ts =>
      ts.flatMap fun t => t.timeline.filterMap fun e => match e.2 with | .noteOn _ k _ => some (e.1, k) | _ => none) =
    some [(0, 66), (0, 71), (0, 74), (0, 78), (0, 81), (1440, 57), (1440, 69), (1440, 73), (1440, 76)] := by decide +kernel

end Crd.Props.C01
