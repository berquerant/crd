import Crd.Lemmas.NoCrash
import Crd.Props.C10
import Crd.Generated.Sites

/-!
# C09 — no input crashes or hangs crd; failures are signalled; nonsense is refused

"For every byte sequence given as chord text, instances YAML or dictionary file and every combination of flag
values, each crd command terminates promptly without panic, fatal error or signal, and either succeeds or fails
with a non-zero exit status, a diagnostic on stderr and no result on stdout.  Musically meaningless input - zero
or zero-denominator durations, an instance without durations, tempo 0, an unknown dynamic, an unknown chord symbol
or modifier command, a key crd has no scale for, notation mixing letters and numbers, an empty piece - makes the
first command that has to interpret it fail in that way, whether it arrives as text metadata, as a YAML field or
as a flag value; it never reaches a MIDI file and is never silently turned into different music."

PARTIAL.  Proved here, for ALL inputs: the models of `text conv`, `write`, `write conv` (in which every `Must…`,
`logx.Panic`, unguarded loop of the Go code is an explicit `panic`/`hang` outcome) never produce such an outcome;
every nonsense kind named in the statement is refused on every path it can arrive on; a successful `write`
implies a sane piece.  NOT provable in a model: wall-clock promptness, the Go runtime's fatal errors, what cobra
and yaml.v3 do with bytes before crd's own code sees them, exit status / stderr / stdout of the process.  Those
are observed on the real binary by the `robust` stream (watchdog fuzz of every subcommand); a theorem about them
would be about an invented model of the OS.
-/
namespace Crd.Props.C09
open Crd Crd.Spec Crd.Generated

/-- `crd text conv syllable|degree`, any `--key`, ANY byte sequence -/
theorem text_conv_never_crashes (mode : Mode) (key : String) (input : List Nat) :
    ∀ e, cmdTextConv mode key input = .error e → e.isCrash = false :=
  textConv_safe mode key (decodeUtf8 input)

/-- `crd text parse`, ANY byte sequence -/
theorem text_parse_never_crashes (input : List Nat) :
    ∀ e, parseText input = .error e → e.isCrash = false :=
  parseTextChars_safe (decodeUtf8 input)

/-- `crd write`, ANY instances document (as scalar strings), attribute file and flag values -/
theorem write_never_crashes (f : WriteFlags) (attrs : List RawAttr) (rs : List RawInstance) :
    ∀ e, cmdWrite f attrs rs = .error e → e.isCrash = false := cmdWrite_safe f attrs rs

/-- `crd write conv`, ANY instances document, attribute file, command list and flag values -/
theorem write_conv_never_crashes (f : WriteFlags) (attrs : List RawAttr) (cs : List String) (rs : List RawInstance) :
    ∀ e, cmdWriteConv f attrs cs rs = .error e → e.isCrash = false := cmdWriteConv_safe f attrs cs rs

/-- the lexer's loops stop at the end of input (the D2 fix), as a regenerated fact about lexer.go -/
theorem lexer_loops_guarded : eofSafe = true := eof_safe

/-- zero numerator or zero denominator, as a YAML `values:` / `meter:` scalar -/
theorem zero_duration_refused_yaml (s : String) (r : Rat') (h : parseRat s.toList = some r) (hz : r.num = 0 ∨ r.den = 0) :
    decodeRat s = .error .invalid := by
  have : r.valid = false := Bool.eq_false_iff.mpr fun h => by have := Rat'.valid_iff.mp h; omega
  simp [decodeRat, h, this]

/-- … as a duration written in chord text -/
theorem zero_duration_refused_text (v : ValueN) (r : Rat') (h : convValue v = .ok r) : 0 < r.num ∧ 0 < r.den :=
  Rat'.valid_iff.mp (convValue_valid v r h).1

/-- … as the `--meter` flag -/
theorem zero_meter_flag_refused (f : WriteFlags) (i i' : Instance) (h : overrideFromFlags f i = .ok i') (hm : f.meter ≠ "") :
    ∃ r, i'.meter = some r ∧ 0 < r.num ∧ 0 < r.den := by
  obtain ⟨hf, rfl⟩ := overrideFromFlags_ok.mp h
  obtain ⟨r, hr, hv⟩ := hf.meter.resolve_left hm
  exact ⟨r, by simp only [overridden, hm, if_false, hr], Rat'.valid_iff.mp hv⟩

/-- a YAML document containing a refused scalar anywhere in `values:` is refused as a whole -/
theorem bad_value_refuses_instance (r : RawInstance) (s : String) (hs : s ∈ r.values) (e : Err) (he : decodeRat s = .error e) :
    ∃ e', decodeInstance r = .error e' := by
  refine error_of_not_ok fun i h => ?_
  obtain ⟨y, _, hy⟩ := mapM_ok_input (decodeInstance_ok.mp h).values s hs
  rw [he] at hy; cases hy

/-- tempo 0 as a YAML field and as text metadata (`--bpm 0` is the flag's default and means "no override") -/
theorem tempo_zero_refused (s : String) (h : parseUint s.toList = some 0) (m : List (String × String)) (i : Instance)
    (hm : metaGet m metaBPMKey = s) (hs : s ≠ "") :
    decodeBPM s = .error .invalid ∧ setBPM m i = .error .invalid := by
  have hd : decodeBPM s = .error .invalid := by simp [decodeBPM, h]
  exact ⟨hd, by rw [setBPM_eq, hm]; exact setFrom_error hs hd⟩

/-- an unknown dynamic: YAML field, text metadata, `--velocity` flag -/
theorem unknown_dynamic_refused (s : String) (h : Dyn.ofString s = .unknown) (hs : s ≠ "") :
    decodeDyn s = .error .invalid ∧
    (∀ m i, metaGet m metaVelocityKey = s → setVelocity m i = .error .invalid) ∧
    (∀ f i, f.velocity = s → ∃ e, overrideFromFlags f i = .error e) := by
  have hd : decodeDyn s = .error .invalid := by simp [decodeDyn, h]
  refine ⟨hd, ?_, ?_⟩
  · intro m i hm; rw [setVelocity_eq, hm]; exact setFrom_error hs hd
  · rintro f i rfl
    exact error_of_not_ok fun i' hov => (overrideFromFlags_ok.mp hov).1.velocity.resolve_left hs h

/-- what a successful `write` preparation guarantees: every chord symbol is in the dictionary (an unknown
symbol fails before anything is played) -/
theorem unknown_chord_refused (f : WriteFlags) (is is' : List Instance) (d : Dict) (n : Nat)
    (h : prepareWrite f is = .ok (d, n, is')) : ∀ i ∈ is', ∀ c, i.chord = some c → (d.chord c.name).isSome = true :=
  (prepareWrite_ok.mp h).known

/-- an unknown modifier command of `write conv` -/
theorem unknown_modifier_refused (f : WriteFlags) (attrs : List RawAttr) (cs : List String) (rs : List RawInstance)
    (c : String) (hc : c ∈ cs) (hne : c ≠ "cmt") : ∃ e, cmdWriteConv f attrs cs rs = .error e :=
  error_of_not_ok fun _ h => hne ((cmdWriteConv_ok.mp h).2.1 c hc)

/-- the loop of `play` runs to the end only over instances that have durations and name only keys with a scale -/
theorem specLoop_sane {d : Dict} : ∀ {is : List Instance} {first : Bool} {k0 : Key} {v0 : Dyn} {calls : List WCall},
    specLoop d first k0 v0 is = .ok calls → ∀ i ∈ is, i.values ≠ [] ∧ (∀ k, i.key = some k → (newScale k).isSome = true)
  | [], _, _, _, _, _, i, hi => nomatch hi
  | a :: as, first, k0, v0, calls, h, i, hi => by
    obtain ⟨hv, hk, _, _, _, _, _, hr, _⟩ := specLoop_cons_ok h
    rcases List.mem_cons.mp hi with rfl | hi'
    · exact ⟨by simpa using hv, keyHasNoScale_eq_false.mp (by simpa using hk)⟩
    · exact specLoop_sane hr i hi'

/-- what a successful play guarantees: the piece is not empty, every instance has durations, every key named
has a scale -/
theorem played_piece_is_sane (d : Dict) (is : List Instance) (calls : List WCall) (h : playWrite d is = .ok calls) :
    is ≠ [] ∧ ∀ i ∈ is, i.values ≠ [] ∧ (∀ k, i.key = some k → (newScale k).isSome = true) := by
  rw [playWrite_eq_spec] at h
  split at h
  · cases h
  rename_i hne
  exact ⟨by simpa using hne, specLoop_sane h⟩

/-- the empty piece is refused by `write` (and has no text form: `Crd.Props.C04.empty_rejected`) -/
theorem empty_piece_refused (d : Dict) : playWrite d [] = .error .invalid := rfl

/-- a key without a scale in syllable text, and as `--key` of `text conv syllable` -/
theorem key_without_scale_refused (k : Key) (hk : newScale k = none) :
    (∀ s i, i.key = some k → changeScale .syllable s i = .error .notFound) ∧
    (∀ key, key ≠ "" → parseKey key.toList = some k → scaleOfFlag key = .error .notFound) := by
  refine ⟨?_, ?_⟩
  · intro s i hi; simp [changeScale, hi, hk]
  · intro key hne hp; simp [scaleOfFlag, hne, hp, hk]

/-- notation mixing letters and numbers -/
theorem mixed_notation_refused (t : List Item) (d1 d2 : DegreeN) (h1 : d1 ∈ t.flatMap Item.degrees)
    (h2 : d2 ∈ t.flatMap Item.degrees) (t1 : degreeType d1 = some .syllable) (t2 : degreeType d2 = some .degree) :
    classify t = .error .invalid := by
  cases hc : classify t with
  | error e => rw [classify_go_error hc]
  | ok ty =>
    have a1 := (classify_go_ok hc).1 d1 h1
    have a2 := (classify_go_ok hc).1 d2 h2
    rw [t1] at a1; rw [t2] at a2; cases a1; cases a2

/-- a successful `write` read a document every scalar of which is meaningful (given that chords carry their
degree), so nothing was replaced by a default on the way -/
theorem written_piece_was_valid (f : WriteFlags) (attrs : List RawAttr) (rs : List RawInstance) (b : Bytes)
    (h : cmdWrite f attrs rs = .ok b) (hdeg : ∀ r ∈ rs, ∀ c, r.chord = some c → c.degree.isSome = true) :
    ∃ is, rs.mapM decodeInstance = .ok is ∧ is ≠ [] ∧ ∀ i ∈ is, ValidInstance i := by
  obtain ⟨is, as, ts, h1, _, h3, _⟩ := cmdWrite_ok h
  refine ⟨is, h1, ?_, Crd.Props.C10.decoded_all_valid rs is h1 hdeg⟩
  rintro rfl
  obtain ⟨d, N, is', calls, hp, hw, _⟩ := cmdWriteTracks_ok h3
  cases (prepareWrite_ok.mp hp).instances
  cases hw

/-- site (regenerated spelling, arguments as written) and why it cannot fire on user input -/
def expectedPanicSites : List (String × String) :=
  [("must cmd/flag.go getScale op.MustParseKey(\"C\")", "constant"),
   ("must note/degree.go <init> util.MustInverseMap(stringCoerceDegreeNameMap)", "start-up table, injective (C12 inverted_tables_injective)"),
   ("must note/name.go <init> util.MustInverseMap(nameStringMap)", "start-up table, injective"),
   ("must note/name.go <init> util.MustNewRing(C, D, E, F, G, A, B)", "constants, non-empty"),
   ("must note/note.go <init> regexp.MustCompile(`([A-G])([#b♯♭]?)`)", "constant pattern"),
   ("must op/circle.go circleMemberSeed.member MustNewScale(MustParseKey(x))", "x ranges over the circle seeds: C14 circles_build"),
   ("must op/circle.go circleMemberSeed.member MustParseKey(x)", "x ranges over the circle seeds: C14 circles_build"),
   ("must op/circle.go circleSeed.circle util.MustNewRing(xs)", "twelve seeds, non-empty"),
   ("must op/key.go <init> regexp.MustCompile(`([A-G])([#b♯♭]?)(m?)`)", "constant pattern (C10 key_pattern_modelled)"),
   ("must op/key.go <init> util.MustInverseMap(accidentalStringMap)", "start-up table, injective"),
   ("must op/scale.go keySignatures MustParseKey(k)", "k ranges over the keys of keyStringSignatures: signature_keys_parse"),
   ("must op/scale.go newRawScaleNotes util.MustNewRing(note.C, note.D, note.E, note.F, note.G, note.A, note.B)", "constants, non-empty"),
   ("must op/velocity.go <init> util.MustInverseMap(stringDynamicSignMap)", "start-up table, injective"),
   ("must play/args.go midiArgs.writeWhenUpdated op.MustNewScale(v)", "modelled as the `MustNewScale` panic outcome of settingsCalls: unreachable, write_never_crashes"),
   ("must play/write.go <init> op.MustNewMeter(4, 4)", "constants"),
   ("must play/write.go <init> op.MustParseKey(\"C\")", "constant"),
   ("panic chord/attribute.go BasicAttributes logx.Panic(err)", "embedded attribute.yml parses: regenerated as Generated.builtinAttrs"),
   ("panic chord/chord.go BasicChords logx.PanicOnError(err)", "embedded chord.yml parses: regenerated as Generated.builtinChords"),
   ("panic logx/log.go Panic panic(err)", "the helper itself"),
   ("panic midix/track.go TrackNoSelectorImpl.Select logx.Panic(errorx.Unexpected(\"TrackOp: %#v\", opType))", "only the two op types exist: C06 selector_in_range"),
   ("panic note/accidental.go Accidental.Semitone logx.Panic(fmt.Errorf(\"%w: %v\", ErrUnknownAccidental, a))", "modelled as `none` of NAcc.semitone?; only reached with the five accidentals"),
   ("panic note/degree.go CoerceDegreeName.String logx.Panic(ErrInvalidDegree)", "modelled as coercePanicText inside Sprintf (recovered by fmt); valid degrees never reach it: C10"),
   ("panic note/degree.go MustNewDegree logx.Panic(errorx.Unexpected(\"MustNewDegree(%d, %s)\", value, name))", "only called on table constants"),
   ("panic note/name.go Name.AddDegree logx.Panic(ErrUnknownName)", "modelled as the panic outcome of Note.addDegree; only `info` commands on parsed notes"),
   ("panic note/name.go Name.Semitone logx.Panic(ErrUnknownName)", "modelled as the `Name.Semitone` panic outcome: unreachable, write_never_crashes / text_conv_never_crashes"),
   ("panic note/value.go MustNewValue logx.PanicOnError(err)", "only called on constants"),
   ("panic op/key.go MustParseKey logx.PanicOnError(err)", "see the MustParseKey call sites above"),
   ("panic op/meter.go MustNewMeter logx.PanicOnError(err)", "see the MustNewMeter call site above"),
   ("panic op/scale.go MustNewScale logx.PanicOnError(err)", "see the MustNewScale call sites above"),
   ("panic util/conv.go MustInverseMap logx.PanicOnError(err)", "see the MustInverseMap call sites above"),
   ("panic util/ring.go MustNewRing logx.PanicOnError(err)", "see the MustNewRing call sites above")]

/-- **the list of panicking calls regenerated from /repo (with their arguments as written) is exactly the list
accounted for here**: a new `Must…`/`panic` call, or a constant argument replaced by a variable, breaks this obligation -/
theorem panic_sites_accounted : Crd.Generated.panicSites = expectedPanicSites.map (·.1) := rfl

/-- every key string of the signature table parses (so `MustParseKey(k)` at start-up cannot fire) -/
theorem signature_keys_parse : ∀ e ∈ Crd.Generated.keyStringSignatures, (parseKey e.1.toList).isSome = true := by
  intro e he
  have := signature_table_wf.2 _ (List.mem_map_of_mem (f := fun (s, n) => (parseKey s.toList, n)) he)
  cases h : parseKey e.1.toList <;> simp_all

example : decodeRat "0/4" = .error .invalid ∧ decodeRat "1/0" = .error .invalid ∧ decodeBPM "0" = .error .invalid := by decide
example : Dyn.ofString "loud" = .unknown := by decide
example : ∃ k, parseKey "G#".toList = some k ∧ newScale k = none := ⟨_, rfl, by decide +kernel⟩
example : (cmdTextConvChars .syllable "" "C[1] 1[1]".toList).toOption.isNone = true := by decide +kernel

end Crd.Props.C09
