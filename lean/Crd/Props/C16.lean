import Crd.Lemmas.Dict
import Crd.Lemmas.Degree

/-!
# C16 — the chord dictionary means what chord symbols mean, and is safely extensible

"Each built-in symbol resolves to its conventional set of intervals above the root (…), a chord's long name and
its display symbol are interchangeable everywhere, every built-in attribute name denotes the interval its
English name says, and the embedded attribute list is what `crd gen attr` generates.  Chords and attributes
supplied with --chord and --attr are usable like built-ins, `extends` inheriting all of the parent's notes
transitively; a dictionary with a dangling attribute, a dangling or cyclic `extends`, or an unnamed entry is
rejected with an error."

Built-ins: kernel evaluation over the embedded YAML files (re-read by the extractor on every run).
User dictionaries: theorems for ARBITRARY lists appended after the built-ins.
-/
namespace Crd.Props.C16
open Crd Crd.Generated

/-- chord theory: intervals above the root, in semitones, for the 23 listed symbols -/
def conventional : List (String × List Int) :=
  [("", [0,4,7]), ("m", [0,3,7]), ("dim", [0,3,6]), ("aug", [0,4,8]), ("7", [0,4,7,10]), ("M7", [0,4,7,11]),
   ("maj7", [0,4,7,11]), ("m7", [0,3,7,10]), ("mM7", [0,3,7,11]), ("m7b5", [0,3,6,10]), ("dim7", [0,3,6,9]),
   ("augM7", [0,4,8,11]), ("9", [0,4,7,10,14]), ("m9", [0,3,7,10,14]), ("M9", [0,4,7,11,14]), ("maj9", [0,4,7,11,14]),
   ("mM9", [0,3,7,11,14]), ("sus4", [0,5,7]), ("7sus4", [0,5,7,10]), ("6", [0,4,7,9]), ("m6", [0,3,7,9]),
   ("add9", [0,4,7,14]), ("sus2", [0,2,7])]

/-- English interval names (spec side) -/
def english : Quality → Option String
  | .major => some "Major" | .minor => some "Minor" | .perfect => some "Perfect"
  | .augmented => some "Augmented" | .diminished => some "Diminished" | _ => none

def builtin : Dict := (newDict [] []).getD ⟨[], []⟩

/-- insertion sort (kernel-reducible) -/
def insertSorted (x : Int) : List Int → List Int
  | [] => [x]
  | y :: ys => if x ≤ y then x :: y :: ys else y :: insertSorted x ys
def isort (l : List Int) : List Int := l.foldr insertSorted []

def semis (d : Dict) (n : String) : Option (List Int) :=
  (d.chordAttrs n).bind fun as => as.mapM fun a => a.degree.semitone

/-- an accepted dictionary IS the built-in entries followed by the user's, indexed by name and by symbol -/
theorem accepted_is_built (ua : List Attr) (uc : List ChordDef) (d : Dict) (hd : newDict ua uc = some d) :
    d = buildRaw (builtinAttrs ++ ua) (builtinChords ++ uc) := (newDict_eq_some.mp hd).2.2

/-- the built-in dictionary loads (no `Must*` panic, validation passes) -/
theorem builtin_loads : (newDict [] []).isSome = true := by decide +kernel

/-- `builtin` without the validation that let it through: rewrite with it before evaluating a look-up, which then
does not validate the dictionary again -/
theorem builtin_eq : builtin = buildRaw builtinAttrs builtinChords := by
  obtain ⟨d, hd⟩ := Option.isSome_iff_exists.mp builtin_loads
  rw [builtin, hd]
  simpa using accepted_is_built [] [] d hd

/-- each of the named symbols resolves — inherited notes included — to its conventional intervals, and as a set
(sorted) these are exactly the listed ones -/
theorem builtin_intervals : ∀ e ∈ conventional,
    ((semis builtin e.1).map isort) = some e.2 := by rw [builtin_eq]; decide +kernel

/-- every symbol of the property's list is a built-in display symbol, and every built-in is in the list -/
theorem symbols_are_the_builtins :
    (∀ e ∈ conventional, ∃ c ∈ builtinChords, c.display = e.1) ∧ (∀ c ∈ builtinChords, ∃ e ∈ conventional, e.1 = c.display) := by
  decide +kernel

/-- no two built-ins collide: each is the entry found under its long name and under its symbol -/
theorem builtin_finds : ∀ c ∈ builtinChords, builtin.chord c.name = some c ∧ builtin.chord c.display = some c := by
  rw [builtin_eq]; decide +kernel

/-- every built-in chord is found by its long name and by its display symbol, as the same entry, and both
resolve to the same notes; no two built-ins collide -/
theorem name_display_interchangeable : ∀ c ∈ builtinChords,
    builtin.chord c.name = some c ∧ builtin.chord c.display = some c ∧
    semis builtin c.name = semis builtin c.display ∧ (semis builtin c.name).isSome = true := by
  intro c hc
  obtain ⟨h1, h2⟩ := builtin_finds c hc
  have e : semis builtin c.name = semis builtin c.display := by
    unfold semis; rw [chordAttrs_congr (h1.trans h2.symm)]
  obtain ⟨x, hx, hd⟩ := symbols_are_the_builtins.2 c hc
  have := builtin_intervals x hx
  rw [hd] at this
  refine ⟨h1, h2, e, ?_⟩
  rw [e]
  cases h : semis builtin c.display <;> simp [h] at this ⊢

/-- the embedded attribute list is exactly what `crd gen attr -d <N>` generates (N from the go:generate line) -/
theorem embedded_is_generated : generateAttributes genAttrMaxDegree = builtinAttrs := by decide +kernel

/-- what `crd gen attr` emits, for any bound: a valid interval, named by its quality's prefix and its number -/
theorem mem_generateAttributes {N : Nat} {a : Attr} (h : a ∈ generateAttributes N) :
    a.degree.valid = true ∧ (lookup a.degree.name genAttrPrefix).map (· ++ toString a.degree.value) = some a.name := by
  simp only [generateAttributes, generateDegrees, List.mem_filterMap, List.mem_flatMap, Option.map_eq_some_iff] at h
  obtain ⟨d, ⟨v, _, q, _, hd⟩, p, hp, rfl⟩ := h
  unfold newDegree at hd
  split at hd
  · cases hd; exact ⟨by assumption, by simp [hp]⟩
  · cases hd

theorem prefix_is_english (q : Quality) : lookup q genAttrPrefix = none ∨ lookup q genAttrPrefix = english q := by
  cases q <;> decide

/-- every built-in attribute name is `<English quality><number>` of the (valid) interval it denotes -/
theorem attr_names_mean : ∀ a ∈ builtinAttrs,
    a.degree.valid = true ∧ (english a.degree.name).map (· ++ toString a.degree.value) = some a.name := by
  intro a ha
  rw [← embedded_is_generated] at ha
  obtain ⟨hv, hn⟩ := mem_generateAttributes ha
  rcases prefix_is_english a.degree.name with h | h <;> rw [h] at hn
  · cases hn
  · exact ⟨hv, hn⟩

/-- every `degree:` of the embedded attribute file is readable (so no entry is a placeholder) -/
theorem builtin_attrs_parse : ∀ a ∈ rawAttributes, (parseDegree a.2.toList).isSome = true := by
  intro a ha
  have hm : (⟨a.1, (parseDegree a.2.toList).getD ⟨0, .unknown⟩⟩ : Attr) ∈ builtinAttrs :=
    List.mem_map.mpr ⟨a, ha, rfl⟩
  -- the placeholder is not a valid interval, and every built-in attribute is one
  cases h : parseDegree a.2.toList with
  | some _ => rfl
  | none =>
    rw [h] at hm
    exact absurd (show Degree.valid ⟨0, .unknown⟩ = true from (attr_names_mean _ hm).1) (by decide)

/-- acceptance is exactly: every user entry is well-formed (named, displayable, non-empty) and the combined
dictionary has no dangling attribute, no dangling parent and no `extends` chain that fails to end -/
theorem accept_iff (ua : List Attr) (uc : List ChordDef) :
    (newDict ua uc).isSome = true ↔
      (ua.all Attr.valid && uc.all ChordDef.valid) = true ∧
      (buildRaw (builtinAttrs ++ ua) (builtinChords ++ uc)).validate = true := by
  rw [Option.isSome_iff_exists]
  exact ⟨fun ⟨_, h⟩ => ⟨(newDict_eq_some.mp h).1, (newDict_eq_some.mp h).2.1⟩,
    fun ⟨h1, h2⟩ => ⟨_, newDict_eq_some.mpr ⟨h1, h2, rfl⟩⟩⟩

/-- an unnamed attribute or chord, a chord without display symbol, or a chord with neither notes nor parent
is rejected -/
theorem unnamed_rejected (ua : List Attr) (uc : List ChordDef)
    (h : (∃ a ∈ ua, a.name = "") ∨ (∃ c ∈ uc, c.name = "" ∨ (c.display = "" ∧ c.name ≠ "MajorTriad") ∨ (c.attributes = [] ∧ c.parent = ""))) :
    newDict ua uc = none := by
  rw [Option.eq_none_iff_forall_ne_some]
  intro d hd
  have hg := (newDict_eq_some.mp hd).1
  simp only [Bool.and_eq_true, List.all_eq_true] at hg
  rcases h with ⟨a, ha, hn⟩ | ⟨c, hc, hn⟩
  · simpa [Attr.valid, hn] using hg.1 a ha
  · have := hg.2 c hc
    rcases hn with hn | ⟨h1, h2⟩ | ⟨h1, h2⟩ <;> simp [ChordDef.valid, *] at this

/-- what `validate` lets through is well-formed -/
theorem rejected_of_not_wf {ua : List Attr} {uc : List ChordDef} {d : Dict}
    (hd : d = buildRaw (builtinAttrs ++ ua) (builtinChords ++ uc)) (h : ¬ d.WF) : newDict ua uc = none := by
  rw [Option.eq_none_iff_forall_ne_some]
  intro d' hd'
  rw [hd, ← accepted_is_built ua uc d' hd'] at h
  exact absurd (newDict_wf hd') h

/-- a visible entry with a dangling attribute or a dangling parent makes the load fail -/
theorem dangling_rejected (ua : List Attr) (uc : List ChordDef) (d : Dict)
    (hd : d = buildRaw (builtinAttrs ++ ua) (builtinChords ++ uc)) (n : String) (c : ChordDef)
    (hc : d.chord n = some c)
    (h : (∃ a ∈ c.attributes, d.attr a = none) ∨ (c.parent ≠ "" ∧ d.chord c.parent = none)) :
    newDict ua uc = none := by
  refine rejected_of_not_wf hd fun wf => ?_
  rcases h with ⟨a, ha, hn⟩ | ⟨hp, hn⟩
  · have := wf.attrs n c hc a ha; simp [hn] at this
  · obtain ⟨p, hpc⟩ := wf.parent_some hc hp
    rw [hn] at hpc; cases hpc

/-- a visible entry on an `extends` cycle makes the load fail -/
theorem cyclic_rejected (ua : List Attr) (uc : List ChordDef) (d : Dict)
    (hd : d = buildRaw (builtinAttrs ++ ua) (builtinChords ++ uc)) (n : String) (c : ChordDef)
    (hc : d.chord n = some c) (hcyc : d.Reach c c) : newDict ua uc = none := by
  refine rejected_of_not_wf hd fun wf => ?_
  have := wf.ends n c hc
  rw [cycle_never_ends d d.bound c hcyc] at this
  cases this

/-- in an accepted dictionary every chord (built-in or user, by name or display) resolves to its parent's notes
— transitively — followed by its own; the lookup never runs out of fuel (= never overflows the stack) -/
theorem resolve_inherits (ua : List Attr) (uc : List ChordDef) (d : Dict) (hd : newDict ua uc = some d)
    (n : String) (c : ChordDef) (hc : d.chord n = some c) :
    d.chordAttrs n = some (d.resolve d.bound c) ∧
    (c.parent ≠ "" → ∃ p, d.chord c.parent = some p ∧
        d.chordAttrs n = some ((d.chordAttrs c.parent).getD [] ++ d.own c) ∧ (d.chordAttrs c.parent).isSome = true) :=
  ⟨(newDict_wf hd).chordAttrs_eq hc, (newDict_wf hd).chordAttrs_parent hc⟩

/-- **long names and display symbols share one space of names, and the last definition that claims a name has
it**: in every accepted dictionary the chord found under `n` is the last entry of (built-ins, then the user's chords
in the order given) whose display symbol or long name is `n` — whatever that entry itself is otherwise called,
and however the entry that lost the name is called -/
theorem last_definition_wins (ua : List Attr) (uc : List ChordDef) (d : Dict) (hd : newDict ua uc = some d) (n : String) :
    d.chord n = (builtinChords ++ uc).reverse.find? (fun c => c.display = n || c.name = n) := by
  rw [accepted_is_built ua uc d hd]
  exact chord_lookup_last _ _ n

theorem find?_claim_none {l : List ChordDef} {n : String} (h : ∀ c ∈ l, c.display ≠ n ∧ c.name ≠ n) :
    l.reverse.find? (fun c => c.display = n || c.name = n) = none := by
  rw [List.find?_eq_none]
  intro c hc
  simp [h c (List.mem_reverse.mp hc)]

/-- a user chord that claims a name (as its long name or as its symbol) and is not followed by another claimant
has it, also when a built-in chord is called so -/
theorem user_takes_over (ua : List Attr) (pre post : List ChordDef) (u : ChordDef) (d : Dict)
    (hd : newDict ua (pre ++ u :: post) = some d) (n : String) (hu : u.display = n ∨ u.name = n)
    (hpost : ∀ c ∈ post, c.display ≠ n ∧ c.name ≠ n) : d.chord n = some u := by
  have h2 : List.find? (fun c => c.display = n || c.name = n) [u] = some u := by
    rcases hu with h | h <;> simp [h]
  rw [last_definition_wins ua _ d hd n]
  simp only [List.reverse_append, List.reverse_cons, List.append_assoc, List.find?_append, find?_claim_none hpost]
  simp [h2]

/-- a name no user chord claims keeps its built-in meaning -/
theorem builtin_name_untouched (ua : List Attr) (uc : List ChordDef) (d : Dict) (hd : newDict ua uc = some d) (n : String)
    (hn : ∀ c ∈ uc, c.display ≠ n ∧ c.name ≠ n) : d.chord n = builtin.chord n := by
  rw [last_definition_wins ua uc d hd n, builtin_eq, chord_lookup_last]
  simp [List.find?_append, find?_claim_none hn]

/-! non-vacuity: a user dictionary with a two-level inheritance chain is accepted and resolves transitively;
a two-entry cycle is rejected -/
def exAttrs : List Attr := [⟨"Eleventh", ⟨11, .perfect⟩⟩]
def exChords : List ChordDef := [⟨"Mine", "mine", ["Eleventh"], "m7"⟩, ⟨"Mine2", "mine2", ["Major9"], "Mine"⟩]
example : ((newDict exAttrs exChords).bind fun d => semis d "mine2") = some [0, 3, 7, 10, 17, 14] := by decide +kernel
example : newDict [] [⟨"X", "x", [], "Y"⟩, ⟨"Y", "y", [], "X"⟩] = none := by decide +kernel
example : newDict [] [⟨"X", "x", ["Nope"], ""⟩] = none := by decide +kernel
/-- a user chord named like the diminished triad's symbol takes `dim` over; the triad stays reachable by its long name -/
example : ((newDict [] [⟨"dim", "o", ["Perfect1", "Minor3", "Diminished5", "Major6"], ""⟩]).bind fun d => semis d "dim") = some [0, 3, 6, 9] ∧
    ((newDict [] [⟨"dim", "o", ["Perfect1", "Minor3", "Diminished5", "Major6"], ""⟩]).bind fun d => semis d "DiminishedTriad") = some [0, 3, 6] := by decide +kernel

end Crd.Props.C16
