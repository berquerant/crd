import Crd.Lemmas.ConvValid

/-!
# C10 — instances YAML is a faithful interchange format between the stages

"Everything `crd text conv` prints is accepted by `crd write` and means the same chords, bass notes, durations,
tempo, meter, dynamics, key and metadata texts that were written; every value of every scalar field (interval,
key, fraction, meter, dynamic, bpm, free text with any valid UTF-8 characters) survives printing and re-reading
unchanged.  The same holds for the output of `crd write conv`, whose only purpose is to be piped into `crd write`."

crd's own share of the format — the `MarshalYAML`/`UnmarshalYAML` methods and `String`/`Parse…` functions of every
scalar type — is modelled and proved to round-trip for ALL values.  yaml.v3 is assumed to carry string scalars
(any valid UTF-8 text) and the mapping/sequence structure unchanged; that assumption is exercised by the tie with
YAML-significant, multi-line and non-ASCII texts.
-/
namespace Crd.Props.C10
open Crd

/-- intervals: every valid interval whose number fits Go's uint -/
theorem degree_survives (d : Degree) (hv : d.valid = true) (hb : d.value < 2 ^ 64) : decodeDegree d.str = .ok d :=
  decodeDegree_ok.mpr (degree_roundtrip d hv hb)

/-- keys: all 42 spellings -/
theorem key_survives : ∀ k ∈ properKeys, decodeKey k.str = .ok k := key_roundtrip

/-- fractions (durations and meters): all n, d; the validators accept exactly positive numerator and denominator -/
theorem fraction_survives (r : Rat') (hv : r.valid = true) (hn : r.num < 2 ^ 64) (hd : r.den < 2 ^ 64) : decodeRat r.str = .ok r :=
  decodeRat_ok.mpr ⟨rat_roundtrip r.num r.den hn hd, hv⟩

/-- dynamics: each of the six signs pp … ff -/
theorem dynamic_survives : ∀ d ∈ sixDyns, decodeDyn d.str = .ok d := dyn_roundtrip

/-- tempo: every positive bpm that fits Go's uint, printed in decimal -/
theorem bpm_survives (n : Nat) (h0 : 0 < n) (hn : n < 2 ^ 64) : decodeBPM (toString n) = .ok n := bpm_roundtrip n h0 hn

/-- free text is carried as the string itself by crd (no transformation on either side) -/
theorem text_survives (i : Instance) : (encodeInstance i).mta = i.mta := rfl

/-- a whole instance: print then read is the identity on every valid instance -/
theorem instance_survives (i : Instance) (h : ValidInstance i) : decodeInstance (encodeInstance i) = .ok i :=
  instance_roundtrip i h

/-- a whole document: a list of valid instances, printed, is read back as it was -/
theorem mapM_roundtrip {is : List Instance} (h : ∀ i ∈ is, ValidInstance i) :
    (is.map encodeInstance).mapM decodeInstance = .ok is :=
  (List.mapM_map ..).trans (mapM_ok_of_forall fun i hi => instance_roundtrip i (h i hi))

/-- **`text conv` → `write`**: every instance `text conv` emits (any text, either notation, any key) is read back
by `write` as exactly the instance that was converted -/
theorem text_conv_output_readable (mode : Mode) (key : String) (input : List Char) (is : List Instance)
    (h : cmdTextConvChars mode key input = .ok is) : is.mapM (fun i => decodeInstance (encodeInstance i)) = .ok is :=
  (List.mapM_map ..).symm.trans (mapM_roundtrip (cmdTextConvChars_valid h))

/-- what `write` reads is a valid instance as soon as every chord carries its degree -/
theorem decoded_is_valid (r : RawInstance) (i : Instance) (h : decodeInstance r = .ok i)
    (hdeg : ∀ c, r.chord = some c → c.degree.isSome = true) : ValidInstance i := by
  have dec := decodeInstance_ok.mp h
  -- a chord of `i` is the reading of the chord of `r`, which carries its degree
  have chord : ∀ c, i.chord = some c →
      (c.degree.valid = true ∧ goUint c.degree.value) ∧ ∀ b, c.base = some b → b.valid = true ∧ goUint b.value := by
    intro c hic
    rcases optM_ok_iff.mp dec.chord with ⟨_, h⟩ | ⟨rc, c', hrc, hc', h⟩ <;> rw [h] at hic <;> cases hic
    obtain ⟨hd, -, hb⟩ := decodeChord_ok.mp hc'
    obtain ⟨s, hs⟩ := Option.isSome_iff_exists.mp (hdeg rc hrc)
    rw [hs] at hd
    exact ⟨decodeDegree_valid hd, optM_ok_all decodeDegree_valid hb⟩
  refine ⟨fun c hic => (chord c hic).1, fun c b hic => (chord c hic).2 b, fun v hv => ?_, optM_ok_all decodeBPM_valid dec.bpm,
    optM_ok_all decodeDyn_valid dec.velocity, optM_ok_all decodeRat_valid dec.meter, optM_ok_all decodeKey_valid dec.key⟩
  obtain ⟨s, _, hs⟩ := mapM_ok_output dec.values v hv
  exact decodeRat_valid hs

theorem decoded_all_valid : ∀ (l : List RawInstance) (is : List Instance), l.mapM decodeInstance = .ok is →
    (∀ r ∈ l, ∀ c, r.chord = some c → c.degree.isSome = true) → ∀ i ∈ is, ValidInstance i := by
  intro l is h hd i hi
  obtain ⟨r, hr, hri⟩ := mapM_ok_output h i hi
  exact decoded_is_valid r i hri (hd r hr)

/-- the key pattern the model's `parseKey` implements is the one in op/key.go (regenerated on every run) -/
theorem key_pattern_modelled : Crd.Generated.keyRegexSource = "([A-G])([#b♯♭]?)(m?)" := by decide

def exInst : Instance :=
  { chord := some ⟨⟨13, .minor⟩, "m7b5", some ⟨3, .major⟩⟩
    values := [⟨3, 8⟩, ⟨2, 1⟩]
    bpm := some 132
    velocity := some .ff
    meter := some ⟨5, 4⟩
    key := some ⟨.E, true, .flat⟩
    mta := some [("txt", "a: b # é")] }
example : decodeInstance (encodeInstance exInst) = .ok exInst := by decide +kernel
example : (cmdWriteConv {} [] ["cmt"] [{ chord := some ⟨some "2", "m", some "b3"⟩, values := ["1"] }]).toOption.map
    (·.map (·.mta)) = some [some [("txt", "2.m on b3")]] := by decide +kernel

end Crd.Props.C10
