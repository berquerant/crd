import Crd.Props.C10
import Crd.Lemmas.Prepare

/-!
# C10, last sentence — "The same holds for the output of `crd write conv`, whose only purpose is to be piped
into `crd write`."

`cmdWriteConv` (Model/Raw.lean; cmd/write.go after the D4 and D11 fixes) decodes the document, applies the
modifier commands, prepares the piece exactly as `write` does (dictionaries, track count, flag overrides on the
first instance, chord symbols) and prints the prepared instances.  Proved here for EVERY document, dictionary,
command list and flag set: whatever it prints is read back by `write`'s reader as exactly the prepared
instances - nothing is lost, defaulted or re-interpreted between the two stages.

Hypotheses, both facts about the callers and not about the data: every chord of the input carries its `degree:`
(a chord without one decodes to the zero degree, which `write` refuses later; D-list, C09
`written_piece_was_valid` has the same guard) and the `--bpm` flag fits Go's `uint` (cobra refuses anything
else before crd sees it).
-/
namespace Crd.Props.C10
open Crd Crd.Generated

/-- the flag overrides put only meaningful values into the first instance -/
theorem override_valid (f : WriteFlags) (i i' : Instance) (hb : goUint f.bpm) (hi : ValidInstance i)
    (h : overrideFromFlags f i = .ok i') : ValidInstance i' := by
  obtain ⟨hf, rfl⟩ := overrideFromFlags_ok.mp h
  refine ⟨hi.degree, hi.base, hi.values, ?_, ?_, ?_, ?_⟩ <;> intro x hx <;> simp only [overridden] at hx <;> split at hx
  · exact hi.bpm x hx
  · cases hx; exact ⟨by omega, hb⟩
  · exact hi.velocity x hx
  · cases hx; exact dyn_mem (hf.velocity.resolve_left ‹_›)
  · exact hi.meter x hx
  · obtain ⟨r, hr, hval⟩ := hf.meter.resolve_left ‹_›
    cases hr.symm.trans hx
    exact ⟨hval, parseRat_bound hr⟩
  · exact hi.key x hx
  · exact parseKey_proper hx

/-- the `cmt` modifier only adds a text -/
theorem modifyCmt_valid (i : Instance) (hi : ValidInstance i) : ValidInstance (modifyCmt i) := by
  unfold modifyCmt
  split
  · exact hi
  · exact ⟨hi.degree, hi.base, hi.values, hi.bpm, hi.velocity, hi.meter, hi.key⟩

/-- preparing a piece keeps every instance meaningful -/
theorem prepare_valid (f : WriteFlags) (is is' : List Instance) (d : Dict) (n : Nat) (hb : goUint f.bpm)
    (hv : ∀ i ∈ is, ValidInstance i) (h : prepareWrite f is = .ok (d, n, is')) : ∀ i ∈ is', ValidInstance i :=
  (prepareWrite_ok.mp h).forall (fun hf i hi => override_valid f i _ hb hi (overrideFromFlags_ok.mpr ⟨hf, rfl⟩)) hv

/-- **`write conv` → `write`**: whatever `write conv` prints (any document, dictionaries, commands, flags) is
read back by `write` as exactly the instances `write conv` had prepared: the decoded input with the `cmt` texts
added and the flag overrides on the first instance -/
theorem write_conv_output_readable (f : WriteFlags) (attrs : List RawAttr) (cs : List String)
    (rs out : List RawInstance) (h : cmdWriteConv f attrs cs rs = .ok out)
    (hdeg : ∀ r ∈ rs, ∀ c, r.chord = some c → c.degree.isSome = true) (hb : goUint f.bpm) :
    ∃ is as d n is2, rs.mapM decodeInstance = .ok is ∧ loadAttrs attrs = .ok as ∧
      prepareWrite { f with userAttrs := as } (is.map modifyCmt) = .ok (d, n, is2) ∧
      out.mapM decodeInstance = .ok is2 := by
  obtain ⟨_, _, is, as, d, n, is2, h1, h2, hp, rfl⟩ := cmdWriteConv_ok.mp h
  have h3 := prepareWrite_ok.mpr hp
  refine ⟨is, as, d, n, is2, h1, h2, h3, mapM_roundtrip ?_⟩
  refine prepare_valid { f with userAttrs := as } (is.map modifyCmt) is2 d n hb ?_ h3
  intro i hi
  obtain ⟨i0, hi0, rfl⟩ := List.mem_map.mp hi
  exact modifyCmt_valid i0 (decoded_all_valid rs is h1 hdeg i0 hi0)

/-- the flag overrides are idempotent: applying them to an instance that already carries them changes nothing -/
theorem override_idem (f : WriteFlags) (i i' : Instance) (h : overrideFromFlags f i = .ok i') :
    overrideFromFlags f i' = .ok i' := by
  obtain ⟨hf, rfl⟩ := overrideFromFlags_ok.mp h
  exact overrideFromFlags_ok.mpr ⟨hf, overridden_idem f i⟩

/-- preparing an already prepared piece with the same flags gives the same piece -/
theorem prepare_idem (f : WriteFlags) (is is' : List Instance) (d : Dict) (n : Nat)
    (h : prepareWrite f is = .ok (d, n, is')) : prepareWrite f is' = .ok (d, n, is') := by
  have hp := prepareWrite_ok.mp h
  obtain rfl := hp.instances
  exact prepareWrite_ok.mpr
    { hp with flags := hp.flags.imp_left (by rintro rfl; rfl), instances := (prepared_idem f is).symm }

/-- **`write conv | write` sounds the prepared piece**: piping what `write conv` printed into `write` with the
same flags and dictionaries gives the same tracks as writing the decoded input with the `cmt` texts added - the
intermediate YAML changes nothing -/
theorem write_conv_then_write (f : WriteFlags) (attrs : List RawAttr) (cs : List String)
    (rs out : List RawInstance) (h : cmdWriteConv f attrs cs rs = .ok out)
    (hdeg : ∀ r ∈ rs, ∀ c, r.chord = some c → c.degree.isSome = true) (hb : goUint f.bpm) :
    ∃ is as, rs.mapM decodeInstance = .ok is ∧ loadAttrs attrs = .ok as ∧
      cmdWrite f attrs out =
        (cmdWriteTracks { f with userAttrs := as } (is.map modifyCmt)).bind fun ts =>
          match smfEncode Generated.ticksPerQuarter ts with
          | some b => .ok b
          | none => .error .unexpected := by
  obtain ⟨is, as, d, n, is2, h1, h2, h3, h4⟩ := write_conv_output_readable f attrs cs rs out h hdeg hb
  refine ⟨is, as, h1, h2, ?_⟩
  rw [cmdWriteTracks_congr (h3.trans (prepare_idem _ _ _ _ _ h3).symm)]
  unfold cmdWrite
  rw [h4, h2]
  rfl

/-- a document of one rest, no flags: `cmt` touches chords only, so `write conv` prints this document
as it read it -/
example : (cmdWriteConv {} [] ["cmt"] [{ values := ["1/2", "3"] , bpm := some "90" }]).toOption =
    some [{ values := ["1/2", "3"], bpm := some "90" }] := by decide +kernel

/-! non-vacuity: a document with a chord, flags that override, and the theorem's conclusion evaluated -/
def exOut : Except Err (List RawInstance) :=
  cmdWriteConv { bpm := 77, key := "Ebm", velocity := "ff", meter := "6/8" } [] ["cmt"]
    [{ chord := some ⟨some "b7", "m7b5", some "3"⟩, values := ["1/3"], key := some "G" }, { values := ["2"] }]
def exRead : Option (List Instance) := exOut.toOption.bind fun out => (out.mapM decodeInstance).toOption
theorem exRead_eq : exRead = some
    [{ chord := some ⟨⟨7, .minor⟩, "m7b5", some ⟨3, .major⟩⟩, values := [⟨1, 3⟩], bpm := some 77, velocity := some .ff,
       meter := some ⟨6, 8⟩, key := some ⟨.E, true, .flat⟩, mta := some [("txt", "7b.m7b5 on 3")] },
     { values := [⟨2, 1⟩] }] := by decide +kernel
example : exRead.map (·.map (·.bpm)) = some [some 77, none] := by rw [exRead_eq]; rfl
example : exRead.map (·.map (·.key.map Key.str)) = some [some "Ebm", none] := by rw [exRead_eq]; decide
example : exRead.map (·.map (·.mta)) = some [some [("txt", "7b.m7b5 on 3")], none] := by rw [exRead_eq]; rfl

end Crd.Props.C10
