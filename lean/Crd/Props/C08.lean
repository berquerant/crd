import Crd.Props.C06
import Crd.Lemmas.SmfFile

/-!
# C08 — every file written is a well-formed Standard MIDI File

"Whatever `crd write` outputs on success parses under a strict reading of the SMF specification: a 6-byte header
declaring format 0 for one track and format 1 for several, exactly --track track chunks whose lengths add up to
the file, valid variable-length deltas, data bytes below 128, and in every track exactly one end-of-track event,
which is last.  Every note-on is closed by a note-off of the same key and channel (no hanging or unmatched
notes), and tempo, time- and key-signature events live in the first track only."

This file holds the structural theorems about the abstract tracks the model of `crd write` produces (any
instances, any track count, any instrument/program) and the header bytes.  The byte-level statement — the strict
reader accepts the encoder's output and recovers the events — is `Crd/Props/C08Bytes.lean`; in addition the
strict reader (`Crd.Spec.parseSMF`, written from the SMF specification) is run on the REAL bytes of every
generated file on every run (stream `write`, oracle `smf-strict`).
-/
namespace Crd.Props.C08
open Crd Crd.Generated Crd.Props.C06

/-- exactly `--track` tracks, between 1 and 65535 -/
theorem track_count (f : WriteFlags) (is : List Instance) (tracks : List Track) (h : cmdWriteTracks f is = .ok tracks) :
    1 ≤ tracks.length ∧ tracks.length ≤ 65535 ∧ (tracks.length : Int) = f.track := by
  obtain ⟨d, r⟩ := write_run h
  have := r.prep.track_pos
  exact ⟨r.length ▸ r.prep.count_pos, r.length ▸ r.prep.count_le, by rw [r.length]; omega⟩

/-- in every track exactly one end-of-track event, and it is the last event -/
theorem one_eot_and_last (f : WriteFlags) (is : List Instance) (tracks : List Track) (h : cmdWriteTracks f is = .ok tracks) :
    ∀ t ∈ tracks, ∃ T, t.timeline = nonEOT t ++ [(T, .close)] ∧ (∀ e ∈ nonEOT t, e.2 ≠ .close) := by
  obtain ⟨d, r⟩ := write_run h
  intro t ht
  obtain ⟨i, rt⟩ := r.of_mem ht
  exact ⟨_, rt.ends, fun e he => by simpa [nonEOT] using (List.mem_filter.1 he).2⟩

def isMetaEv : Ev → Bool
  | .seqName _ | .instrument _ | .tempo _ | .meter _ _ | .keySig _ _ _ _ | .text _ | .lyric _ | .marker _ => true
  | _ => false

/-- every non-note event of the piece is routed as a meta-track op, i.e. to track 0 -/
theorem meta_routed_to_first (τ : List Rat' → Nat) (d : Dict) (is : List Instance) :
    ∀ T first k0 v0, ∀ e ∈ pieceLog τ d T first k0 v0 is, isMetaEv e.2.2 = true → e.2.1 = .metaT := by
  intro T first k0 v0 e he hm
  rcases mem_pieceLog he with ⟨_, _, _, _, _, _, _, _, h⟩ | ⟨_, _, _, h⟩ | ⟨_, _, h⟩
  · exact h
  · rw [h] at hm; cases hm
  · rw [h] at hm; cases hm

/-- tempo, time-signature, key-signature (and text) events live in the first track only -/
theorem timing_meta_only_in_first_track (f : WriteFlags) (is : List Instance) (tracks : List Track)
    (h : cmdWriteTracks f is = .ok tracks) :
    ∀ i t, 0 < i → tracks[i]? = some t → ∀ e ∈ t.timeline, isMetaEv e.2 = false := by
  obtain ⟨d, r⟩ := write_run h
  have hmeta : ∀ x ∈ refTimeline f d (prepared f is), isMetaEv x.2.2 = true → x.2.1 = .metaT :=
    forall_mem_refTimeline.mpr ⟨fun _ => rfl, fun _ => rfl, fun _ => rfl, meta_routed_to_first goTicks d _ 0 true _ _⟩
  intro i t hi ht e he
  rw [(r.track i t ht).timeline] at he
  simp only [share, List.mem_append, List.mem_map, List.mem_filter, List.mem_singleton, decide_eq_true_eq] at he
  rcases he with ⟨x, ⟨hx, hr⟩, rfl⟩ | rfl
  · -- a meta event is on the meta route, hence in track 0
    refine Bool.eq_false_iff.mpr fun hm => ?_
    rw [route_of_meta (hmeta x hx hm)] at hr
    omega
  · rfl

/-- the share of track `t` of the events of one `addFixedList` loop: the keys whose index is routed to `t` -/
theorem share_of_fixed (mk : Nat → Ev) (N t T : Nat) (i0 : Nat) (ks : List Nat) :
    (fixedEvs mk T i0 ks).filter (fun e => route N e = t) =
      ((ks.zipIdx i0).filter fun p => selectTrack N (.fixed p.2) = t).map fun p => (T, OpT.fixed p.2, mk p.1) := by
  rw [fixedEvs_eq_map, List.filter_map]; rfl

/-- **no hanging or unmatched notes**: in every track, the note-offs an instance contributes are for exactly the
keys (and routing indices) of the note-ons it contributes to that same track, in the same order; ons at the
instance's start, offs at its end — so every note-on is closed in its own track by a note-off of the same key and
channel, and nothing else is closed -/
theorem notes_paired_per_track (d : Dict) (k : Key) (v : Dyn) (S E : Nat) (i : Instance) (N t : Nat) :
    ∃ picked : List (Nat × Nat),
      (instOns d k v S i).filter (fun e => route N e = t) = picked.map (fun p => (S, OpT.fixed p.1, Ev.noteOn 0 p.2 (v.velocity % 256))) ∧
      (instOffs d k E i).filter (fun e => route N e = t) = picked.map (fun p => (E, OpT.fixed p.1, Ev.noteOff 0 p.2)) :=
  ⟨(((chordKeys d k i).zipIdx 0).filter fun p => selectTrack N (.fixed p.2) = t).map fun p => (p.2, p.1),
    by rw [instOns_eq, share_of_fixed, List.map_map]; rfl, by rw [instOffs_eq, share_of_fixed, List.map_map]; rfl⟩

/-- the header: "MThd", length 6, format 0 for one track and 1 for several, the track count, the division -/
theorem header_bytes (tpq : Nat) (tracks : List Track) (bytes : Bytes) (h : smfEncode tpq tracks = some bytes)
    (hn : tracks.length < 65536) (ht : tpq ≤ 32767) :
    bytes.take 14 = [0x4D, 0x54, 0x68, 0x64, 0, 0, 0, 6, 0, (if tracks.length > 1 then 1 else 0),
      tracks.length / 256, tracks.length % 256, tpq / 256, tpq % 256] := by
  unfold smfEncode at h
  simp only at h
  split at h
  · cases h
  · cases h
    have h256 : tracks.length / 256 % 256 = tracks.length / 256 := Nat.mod_eq_of_lt (by omega)
    have ht2 : tpq / 256 % 256 = tpq / 256 := Nat.mod_eq_of_lt (by omega)
    rw [chunk_mthd, List.length_map, Nat.min_eq_left ht, Nat.mod_eq_of_lt hn, h256, ht2]
    split <;> rfl

theorem ticks_per_quarter : ticksPerQuarter = 960 := by decide

/-- **valid variable-length deltas**: every delta time of every track is at most 0x0FFFFFFF, is written in at most four
bytes, and the strict reader reads exactly it back (gomidi's encoder against the specification's decoder, for every
value that can occur) -/
theorem delta_times_fit (f : WriteFlags) (is : List Instance) (tracks : List Track) (h : cmdWriteTracks f is = .ok tracks) :
    ∀ t ∈ tracks, ∀ x ∈ t.ops, x.1 ≤ 0x0FFFFFFF ∧ ∀ rest, Crd.Spec.readVlq (vlq x.1 ++ rest) = some (x.1, rest) := by
  -- a delta is at most the track's clock, which is the length of the piece, which `WriteTo` has bounded
  obtain ⟨d, r⟩ := write_run h
  intro t ht x hx
  obtain ⟨i, rt⟩ := r.of_mem ht
  have hx28 : x.1 ≤ maxTicks := by
    have := delta_le_clock t x hx
    have := rt.clock
    have := r.fits
    omega
  exact ⟨hx28, fun rest => readVlq_vlq x.1 hx28 rest⟩

/-- a piece longer than any delta time can span is refused (D22 fix), so no malformed delta is ever written -/
theorem too_long_refused (f : WriteFlags) (is : List Instance) (d : Dict) (N : Nat) (is' : List Instance)
    (hp : prepareWrite f is = .ok (d, N, is')) (hlong : pieceTicks goTicks is' > 0x0FFFFFFF) :
    ∃ e, cmdWriteTracks f is = .error e := by
  refine error_of_not_ok fun tracks hc => ?_
  obtain ⟨_, _, _, _, hp', _, hfit, _⟩ := cmdWriteTracks_ok hc
  cases hp.symm.trans hp'
  exact absurd hfit (Nat.not_le.mpr hlong)

example : ((cmdWrite {} [] [{ chord := some ⟨some "1", "m7", none⟩, values := ["1"] }]).toOption.map (·.take 22)) =
    some [0x4D, 0x54, 0x68, 0x64, 0, 0, 0, 6, 0, 0, 0, 1, 3, 192, 0x4D, 0x54, 0x72, 0x6B, 0, 0, 0, 77] := by decide +kernel

end Crd.Props.C08
