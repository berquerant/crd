import Crd.Lemmas.Conv
import Crd.Lemmas.Degree
import Crd.Props.C13

/-!
# C03 — text conv syllable: note names map to the right interval in every key

"For every supported key and every root and bass written as a letter with optional sharp or flat, whenever
`crd text conv syllable` succeeds the emitted degree has the number given by the letter distance from the tonic
(for the bass: from the chord root) and the size in semitones given by the pitch distance, so that tonic + degree
is the written note.  The seven notes of the key's own scale are always accepted — as roots, mapping to the
scale's own degrees, and as bass notes over one another; a note the notation cannot express is an error, never
a different degree."
-/
namespace Crd.Props.C03
open Crd Crd.Spec Crd.Props.C13

/-- the 21 spellings: 7 letters × natural/sharp/flat -/
def notes21 : List SNote := Letter.all.flatMap fun l => [⟨l, .natural⟩, ⟨l, .sharp⟩, ⟨l, .flat⟩]

/-- letter distance as an interval number: C→C = 1, C→D = 2, …, D→C = 7 (spec) -/
def letterDist (a b : SNote) : Nat := (letterIndex b.name + 7 - letterIndex a.name) % 7 + 1

/-- pitch distance by letter: upward distance between the natural letters (0..11) plus the difference of the
accidentals — so that `a + interval` is the WRITTEN note `b`, not merely an enharmonic of it (spec) -/
def pitchDist (a b : SNote) : Int :=
  (naturalPitch b.name - naturalPitch a.name).emod 12 + (accShift b.acc - accShift a.acc)

/-- the whole contract of the interval search in one decidable statement -/
def getDegreeSpec (a b : SNote) (sharpFirst : Bool) : Bool :=
  match a.getDegree b sharpFirst with
  | .ok d => d.value == letterDist a b && specSize d.value d.name == some (pitchDist a b)
  | .invalid => allQ.all fun q => specSize (letterDist a b) q != some (pitchDist a b) ||
      -- observed gap of the search lists (not required by the property): the diminished second/third/sixth/
      -- seventh ("bb2" …) is never tried, so e.g. C♯→D♭ is refused although "bb2" exists
      (q == .diminished && !perfectClass ((letterDist a b - 1) % 7))
  | .panic => false

/-- the interval search on all 21 × 21 note pairs, evaluated once for the two theorems below: the contract holds
sharp-first, and flat-first gives the same answer -/
theorem getDegree_sweep : ∀ a ∈ notes21, ∀ b ∈ notes21,
    getDegreeSpec a b true = true ∧ a.getDegree b true = a.getDegree b false := by decide +kernel

/-- the search order (sharp-first / flat-first, chosen from the key's tendency) never changes the answer -/
theorem order_irrelevant : ∀ a ∈ notes21, ∀ b ∈ notes21, a.getDegree b true = a.getDegree b false :=
  fun a ha b hb => (getDegree_sweep a ha b hb).2

/-- **soundness, completeness, never-a-different-degree**, for all 21 × 21 note pairs and both search orders:
success means number = letter distance and size = pitch distance; failure happens only when no quality of that
number has that size (the note is not expressible) or the only one is a diminished 2nd/3rd/6th/7th -/
theorem getDegree_spec : ∀ a ∈ notes21, ∀ b ∈ notes21, ∀ o ∈ [true, false], getDegreeSpec a b o = true := by
  intro a ha b hb o _
  obtain ⟨h, e⟩ := getDegree_sweep a ha b hb
  cases o
  · unfold getDegreeSpec at h ⊢; rwa [← e]
  · exact h

/-- the positive half of `getDegree_spec` -/
theorem getDegree_spec_ok {a b : SNote} (ha : a ∈ notes21) (hb : b ∈ notes21) {o : Bool} {d : Degree}
    (h : a.getDegree b o = .ok d) : d.value = letterDist a b ∧ specSize d.value d.name = some (pitchDist a b) := by
  have := getDegree_spec a ha b hb o (by cases o <;> simp)
  simpa [getDegreeSpec, h] using this

theorem getDegree_no_panic {a b : SNote} (ha : a ∈ notes21) (hb : b ∈ notes21) (o : Bool) : a.getDegree b o ≠ .panic := by
  intro h
  have := getDegree_spec a ha b hb o (by cases o <;> simp)
  rw [getDegreeSpec, h] at this
  cases this

/-- how many of the 441 ordered pairs are refused -/
theorem rejected_count : (notes21.flatMap fun a => notes21.filter fun b => a.getDegree b true == .invalid).length = 44 := by
  decide +kernel

theorem letter_ofString_cases (s : String) : Letter.ofString s = .unknown ∨ Letter.ofString s ∈ Letter.all := by
  cases h : Letter.ofString s <;> simp [Letter.all]

theorem mem_notes21 {l : Letter} {a : Acc} (hl : l ∈ Letter.all) (ha : a = .natural ∨ a = .sharp ∨ a = .flat) :
    (⟨l, a⟩ : SNote) ∈ notes21 :=
  List.mem_flatMap.mpr ⟨l, hl, by rcases ha with rfl | rfl | rfl <;> simp⟩

/-- a root/bass token that the converter accepts denotes one of the 21 spellings -/
theorem newScaleNote_mem (d : DegreeN) (n : SNote) (h : newScaleNote d = .ok n) : n ∈ notes21 := by
  unfold newScaleNote at h
  split at h
  · cases h
  · rename_i hl
    cases h
    refine mem_notes21 ((letter_ofString_cases _).resolve_left (by simpa using hl)) ?_
    cases d.acc with
    | none => exact .inl rfl
    | some a => exact acc_ofString a.str

/-- the first note of every supported key's scale is its tonic as written, one of the 21 spellings -/
theorem scale_tonic {k : Key} {s : Scale} (hs : newScale k = some s) :
    s.notes.head? = some ⟨k.name, k.acc⟩ ∧ (⟨k.name, k.acc⟩ : SNote) ∈ notes21 := by
  have hm : ∀ k ∈ requiredKeys, (⟨k.name, k.acc⟩ : SNote) ∈ notes21 := by decide
  exact ⟨scale_head hs, hm k (required_of_newScale hs)⟩

/-- **the converter is sound in every supported key, for any tokens**: whenever `text conv syllable` converts a
chord, the root degree measures tonic → root and the bass degree measures root → bass, by letter and by pitch -/
theorem conv_sound (k : Key) (s : Scale) (hs : newScale k = some s) (root : DegreeN) (base : Option DegreeN)
    (d : Degree) (b : Option Degree) (h : syllableDegrees s root base = .ok (d, b)) :
    ∃ tonic rn, s.notes.head? = some tonic ∧ tonic = ⟨k.name, k.acc⟩ ∧ newScaleNote root = .ok rn ∧
      d.value = letterDist tonic rn ∧ specSize d.value d.name = some (pitchDist tonic rn) ∧
      (match base, b with
       | none, none => True
       | some bt, some bd => ∃ bn, newScaleNote bt = .ok bn ∧
           bd.value = letterDist rn bn ∧ specSize bd.value bd.name = some (pitchDist rn bn)
       | _, _ => False) := by
  obtain ⟨rn, t, tonic, hrn, _, hh, hg, hb⟩ := syllableDegrees_ok h
  obtain ⟨hhead, htm⟩ := scale_tonic hs
  obtain rfl : tonic = ⟨k.name, k.acc⟩ := Option.some.inj (hh.symm.trans hhead)
  have hrm := newScaleNote_mem root rn hrn
  obtain ⟨e1, e2⟩ := getDegree_spec_ok htm hrm hg
  refine ⟨_, rn, hh, rfl, hrn, e1, e2, ?_⟩
  rcases hb with ⟨rfl, rfl⟩ | ⟨bt, bd, bn, t2, rfl, rfl, hbn, _, hg2⟩
  · trivial
  · exact ⟨bn, hbn, getDegree_spec_ok hrm (newScaleNote_mem _ bn hbn) hg2⟩

/-- **the key's own notes are always accepted**: as roots they map to the scale's own degrees (number i+1, size =
the mode's step pattern), and as bass notes over one another to number ((j − i) mod 7) + 1 — all 28 keys -/
theorem scale_notes_accepted : ∀ (k : Key) (s : Scale), newScale k = some s →
    ((List.range 7).all fun i => (List.range 7).all fun j =>
      match s.notes[i]?, s.notes[j]?, s.notes.head? with
      | some ni, some nj, some tonic =>
        (match getTendency s ni, getTendency s nj with
         | .ok ti, .ok tj =>
           (match tonic.getDegree ni (ti == .sharp), ni.getDegree nj (tj == .sharp) with
            | .ok d, .ok b =>
              d.value == i + 1 &&
              d.semitone == some (((if k.minor then minorSteps else majorSteps).take i).foldl (· + ·) 0) &&
              b.value == (j + 7 - i) % 7 + 1
            | _, _ => false)
         | _, _ => false)
      | _, _, _ => false) = true :=
  lift (by decide +kernel)

example : (⟨.D, .flat⟩ : SNote).getDegree ⟨.C, .sharp⟩ true = .ok ⟨7, .augmented⟩ := by decide
example : pitchDist ⟨.D, .flat⟩ ⟨.C, .sharp⟩ = 12 ∧ letterDist ⟨.D, .flat⟩ ⟨.C, .sharp⟩ = 7 := by decide
example : ((cmdTextConvChars .syllable "Eb" "Ab/C[1]".toList).toOption.map (·.map (·.chord))) =
    some [some (ChordIn.mk ⟨4, .perfect⟩ "" (some ⟨3, .major⟩))] := by decide +kernel

end Crd.Props.C03
