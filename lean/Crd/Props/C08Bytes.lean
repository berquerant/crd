import Crd.Lemmas.SmfCrd
import Crd.Lemmas.SmfBalance
import Crd.Props.C01

/-!
# C08 at byte level — the strict reader accepts every file `crd write` produces and recovers every event

"Whatever `crd write` outputs on success parses under a strict reading of the SMF specification: a 6-byte header
declaring format 0 for one track and format 1 for several, exactly --track track chunks whose lengths add up to the
file, valid variable-length deltas, data bytes below 128, and in every track exactly one end-of-track event, which
is last."

`Crd.Spec.parseSMF` is written from the SMF 1.0 specification and shares no code with the encoder model
(`smfEncode`, modelled on gomidi and byte-compared with it on every run).  The theorem composes the end-to-end
refinement of `crd write` (C01/C02/C06) with: VLQ round trip for every delta up to 0x0FFFFFFF (which the D22 fix
guarantees), running status on both sides, meta lengths, the key-signature range for every supported key, chunk
lengths, header fields.  The two size hypotheses are the format's own limits, stated rather than hidden: a text
shorter than 2^28 bytes, a track chunk shorter than 2^32 bytes.
-/
namespace Crd.Props.C08
open Crd Crd.Spec Crd.Generated Crd.Props.C06

/-- **the strict reader accepts the file and recovers format, division, track count and every event of every track** -/
theorem written_file_parses (f : WriteFlags) (is : List Instance) (tracks : List Track)
    (h : cmdWriteTracks f is = .ok tracks)
    (hinstr : (strBytes f.instrument).length ≤ 0x0FFFFFFF) (htexts : TextsFit is)
    (hsize : ∀ t ∈ tracks, (trackData 0 t.ops).length < 2 ^ 32) :
    ∃ bytes, smfEncode ticksPerQuarter tracks = some bytes ∧
      parseSMF bytes = .ok ⟨if tracks.length > 1 then 1 else 0, ticksPerQuarter, tracks.map fun t => t.ops.map toS⟩ := by
  obtain ⟨d, r⟩ := write_run h
  obtain ⟨hlen1, hlen2, -⟩ := track_count f is tracks h
  have htf : TextsFit (prepared f is) := r.prep.forall (fun _ _ hi => hi) htexts -- the flags never touch a text
  have hdel := delta_times_fit f is tracks h
  have hfit : ∀ e ∈ refTimeline f d (prepared f is), e.2.2.Fits :=
    forall_mem_refTimeline.mpr ⟨(by decide : (strBytes defaultSequenceName).length ≤ 0x0FFFFFFF), hinstr, trivial,
      pieceLog_fits goTicks d htf⟩
  -- every track is closed and every event of it fits: its events are events of the reference timeline, then the end of track
  have key : ∀ t ∈ tracks, Closed t.ops ∧ ∀ x ∈ t.ops, x.2.Fits := by
    intro t ht
    obtain ⟨i, rt⟩ := r.of_mem ht
    have hcl : Closed t.ops :=
      closed_of_events rt.events (List.forall_mem_map.mpr fun y hy => refTimeline_no_close f d _ y (List.mem_filter.mp hy).1)
    have hev : ∀ e ∈ t.ops.map (·.2), e.Fits := by
      rw [rt.events, List.forall_mem_append]
      exact ⟨List.forall_mem_map.mpr fun y hy => hfit y (List.mem_filter.mp hy).1, by simp [Ev.Fits]⟩
    exact ⟨hcl, fun x hx => hev x.2 (List.mem_map_of_mem hx)⟩
  exact parse_smfEncode ticksPerQuarter tracks ⟨hlen1, hlen2⟩ (by decide)
    (fun t ht => ⟨(key t ht).1, fun x hx => ⟨(hdel t ht x hx).1, ((key t ht).2 x hx).evOK⟩, hsize t ht⟩)
    (fun t ht x hx => ((key t ht).2 x hx).bytes)

/-- **from the instances document to the bytes**: whatever `crd write` outputs on success is accepted by the strict
reader, with the declared format, 960 ticks per quarter, and exactly `--track` tracks -/
theorem write_output_parses (f : WriteFlags) (attrs : List RawAttr) (rs : List RawInstance) (b : Bytes)
    (h : cmdWrite f attrs rs = .ok b)
    (hinstr : (strBytes f.instrument).length ≤ 0x0FFFFFFF)
    (htexts : ∀ r ∈ rs, ∀ m, r.mta = some m → ∀ kv ∈ m, (strBytes kv.2).length ≤ 0x0FFFFFFF)
    (hsize : ∀ (f' : WriteFlags) (is : List Instance) (ts : List Track), cmdWriteTracks f' is = .ok ts →
      ∀ t ∈ ts, (trackData 0 t.ops).length < 2 ^ 32) :
    ∃ file, parseSMF b = .ok file ∧ (file.tracks.length : Int) = f.track ∧ file.division = 960 ∧
      file.format = (if file.tracks.length > 1 then 1 else 0) := by
  obtain ⟨is, as, ts, h1, _, h3, hb⟩ := cmdWrite_ok h
  have htf : TextsFit is := by
    intro i hi m hm
    obtain ⟨r, hr, hri⟩ := mapM_ok_output h1 i hi
    exact htexts r hr m ((decodeInstance_ok.mp hri).mta ▸ hm)
  obtain ⟨bytes, henc, hparse⟩ := written_file_parses { f with userAttrs := as } is ts h3 hinstr htf (hsize _ _ _ h3)
  cases hb.symm.trans henc
  obtain ⟨_, _, hcnt⟩ := track_count { f with userAttrs := as } is ts h3
  refine ⟨_, hparse, ?_, rfl, ?_⟩
  · simpa using hcnt
  · simp

/-- non-vacuity: a two-track piece with a key change; the strict reader returns its 2 tracks of 8 and 19 events -/
example : ((cmdWriteTracks { track := 2 } Crd.Props.C01.exDoc).toOption.bind fun ts =>
      (smfEncode ticksPerQuarter ts).bind fun b => (parseSMF b).toOption.map fun f => (f.format, f.division, f.tracks.map (·.length))) =
    some (1, 960, [8, 19]) := by decide +kernel

/-- the flags only ever put a known dynamic on the first instance -/
theorem prepare_keeps_dyns {f : WriteFlags} {is is' : List Instance} {d : Dict} {N : Nat}
    (hp : Prepared f is d N is') (hk : KnownDyns is) : KnownDyns is' := by
  refine hp.forall (fun hf i hi v hiv => ?_) hk
  simp only [overridden] at hiv
  split at hiv
  · exact hi v hiv
  · cases hiv; exact dyn_mem (hf.velocity.resolve_left ‹_›)

/-- **no hanging or unmatched notes, as the strict reader sees the file**: in every track of the parsed file every
note-on is closed by a later note-off of the same key and channel, nothing is closed that is not open, nothing stays
open (`Crd.Spec.notesBalanced`) -/
theorem written_tracks_balanced (f : WriteFlags) (is : List Instance) (tracks : List Track)
    (h : cmdWriteTracks f is = .ok tracks) (hk : KnownDyns is) :
    ∀ t ∈ tracks, notesBalanced (t.ops.map toS) = true := by
  obtain ⟨d, r⟩ := write_run h
  intro t ht
  obtain ⟨i, rt⟩ := r.of_mem ht
  exact rt.balanced (prepare_keeps_dyns r.prep hk)

end Crd.Props.C08
