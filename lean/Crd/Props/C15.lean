import Crd.Lemmas.DegreeParse
import Crd.Lemmas.AddDegree

/-!
# C15 — every interval name has its textbook size and prints and parses back

"Every interval (number n ≥ 1 with quality major, minor, perfect, augmented, diminished, doubly augmented
or doubly diminished where that quality exists for n) measures what theory says …; impossible combinations
such as 'major fourth' are rejected.  Its printed notation reads back as the same interval, and
`crd info attr|chord describe` reports for every root a note whose pitch class and octave offset are
root + interval, spelled natural when possible and otherwise with the requested accidental."

Property theorems only; proofs call `Crd/Lemmas`.  Model functions: `Crd/Model/Note.lean`
(tied to note/*.go by the streams `note` and `describe`); tables: `Crd/Generated/Tables.lean` (regenerated).
-/
namespace Crd.Props.C15
open Crd Crd.Spec

/-- size = major-scale size of the simple interval + 12 per octave, −1 minor, +1 augmented, −1/−2
diminished, one more for doubly — for EVERY n and quality (no bound on n) -/
theorem size_is_textbook (n : Nat) (q : Quality) : (Degree.mk n q).semitone = specSize n q :=
  semitone_eq_spec ⟨n, q⟩

/-- impossible combinations are rejected, for every n: major/minor of the perfect class (unison, fourth,
fifth and compounds), perfect of the others, anything of number 0, and the unknown quality -/
theorem impossible_rejected (n : Nat) :
    (perfectClass ((n - 1) % 7) = true → (Degree.mk n .major).semitone = none ∧ (Degree.mk n .minor).semitone = none) ∧
    (perfectClass ((n - 1) % 7) = false → (Degree.mk n .perfect).semitone = none) ∧
    (Degree.mk n .unknown).semitone = none ∧ (∀ q, (Degree.mk 0 q).semitone = none) := by
  simp only [semitone_eq_spec, specSize]
  by_cases h0 : n = 0
  · simp [h0]
  · cases perfectClass ((n - 1) % 7) <;> simp [h0]

/-- and every other combination exists -/
theorem possible_accepted (n : Nat) (h : 1 ≤ n) :
    (perfectClass ((n - 1) % 7) = false → (Degree.mk n .major).valid ∧ (Degree.mk n .minor).valid) ∧
    (perfectClass ((n - 1) % 7) = true → (Degree.mk n .perfect).valid) ∧
    (Degree.mk n .augmented).valid ∧ (Degree.mk n .diminished).valid ∧
    (Degree.mk n .daug).valid ∧ (Degree.mk n .ddim).valid := by
  have h0 : ¬ n = 0 := by omega
  simp only [Degree.valid, semitone_eq_spec, specSize, h0, if_false]
  cases perfectClass ((n - 1) % 7) <;> simp

/-- printed notation reads back as the same interval (any valid interval whose number fits Go's uint) -/
theorem print_parse_roundtrip (d : Degree) (hv : d.valid) (hb : d.value < 2 ^ 64) :
    parseDegree d.str.toList = some d := degree_roundtrip d hv hb

/-- the notation reader never invents an interval that does not exist -/
theorem parse_only_valid (s : List Char) (d : Degree) (h : parseDegree s = some d) : d.valid :=
  parse_valid s d h

/-- `info attr|chord describe`: root + interval, natural when possible, else the requested accidental -/
theorem describe_pitch (root : Note) (hr : root ∈ roots) (d : Degree) (hv : d.valid) (pref : Bool) :
    ∃ (r : Note) (oct pc rs ds : Int),
      root.addDegree d pref = .ok r oct ∧ root.semitone? = some rs ∧ d.semitone = some ds ∧
      r.semitone? = some pc ∧ 0 ≤ pc ∧ pc < 12 ∧ 12 * oct + pc = rs + ds ∧
      (if naturalAt pc then r.acc = .natural else r.acc = (if pref then .sharp else .flat)) :=
  addDegree_pitch root hr d hv pref

/-! non-vacuity: concrete non-trivial inputs satisfy the hypotheses, and the statements say something -/
example : (Degree.mk 13 .minor).valid ∧ (13 : Nat) < 2 ^ 64 := by decide
example : (Degree.mk 13 .minor).semitone = some 20 := by decide
example : (Degree.mk 11 .augmented).str = "#11" := by decide
example : (⟨.E, .flat⟩ : Note) ∈ roots ∧ (Degree.mk 7 .minor).valid := by decide
example : (⟨.E, .flat⟩ : Note).addDegree ⟨7, .minor⟩ false = .ok ⟨.D, .flat⟩ 1 := by decide

end Crd.Props.C15
