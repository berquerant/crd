import Crd.Lemmas.Piece

/-!
# C06 — track count never changes the music; every track ends when the piece ends

"For any instances document, `crd write --track N` contains, for every N ≥ 1, the same events at the same
absolute ticks as `--track 1` once the tracks are merged; only their distribution over tracks differs.  Every
track's end-of-track marker sits at the total duration of the piece — the sum of all instance lengths, trailing
rests included — so all tracks have the same, exact length."

All statements hold for every instance list, every track count 1 ≤ N ≤ 65535, every instrument/program.  They rest on
the end-to-end refinement `Crd.write_run`, whose core (`Crd.runCalls_sync`) is an induction over the writer calls with
the invariant "all tracks have the same clock, and clock + the writer's pending delta = the reference time".
-/
namespace Crd.Props.C06
open Crd Crd.Generated

/-- events of a track other than its end-of-track, with absolute ticks -/
def nonEOT (t : Track) : List (Nat × Ev) := t.timeline.filter (fun e => e.2 != .close)

/-- all tracks merged (track after track) -/
def merged (ts : List Track) : List (Nat × Ev) := ts.flatMap nonEOT

/-- `TrackNoSelectorImpl.Select`: the index → track selector never leaves the track list (no index panic) -/
theorem selector_in_range (N : Nat) (h : 1 ≤ N) (t : OpT) : selectTrack N t < N := by
  cases t with
  | metaT => exact h
  | fixed n =>
    unfold selectTrack
    by_cases h1 : N = 1
    · simp [h1]
    · simp only [h1, if_false]
      have : n % (N - 1) < N - 1 := Nat.mod_lt _ (by omega)
      omega

/-- when preparation succeeds, it succeeds for every other admissible track count, with the same dictionary and the
same instances -/
theorem prepare_independent_of_tracks (f : WriteFlags) (is : List Instance) (d : Dict) (N : Nat) (is' : List Instance)
    (h : prepareWrite f is = .ok (d, N, is')) (n : Nat) (h1 : 1 ≤ n) (h2 : n ≤ maxTracks) :
    prepareWrite { f with track := (n : Int) } is = .ok (d, n, is') := by
  have hp := prepareWrite_ok.mp h
  exact prepareWrite_ok.mpr
    { hp with
      track_pos := by show (1 : Int) ≤ n; omega
      track_le := by show (n : Int) ≤ (maxTracks : Nat); omega
      count := by simp
      flags := hp.flags.imp_right fun h => ⟨h.velocity, h.meter, h.key⟩
      instances := by simpa using hp.instances }

/-- no event of the piece's timeline is an end-of-track -/
theorem pieceLog_no_close (τ : List Rat' → Nat) (d : Dict) (is : List Instance) :
    ∀ T first k0 v0, ∀ e ∈ pieceLog τ d T first k0 v0 is, e.2.2 ≠ .close := by
  intro T first k0 v0 e he
  rcases mem_pieceLog he with ⟨_, _, _, _, _, c, _, hc, _⟩ | ⟨_, _, _, h⟩ | ⟨_, _, h⟩
  · cases c <;> simp [WCall.metaEv] at hc <;> simp [← hc]
  · simp [h]
  · simp [h]

theorem nonEOT_of {t : Track} {X : List (Nat × Ev)} {T : Nat} (htl : t.timeline = X ++ [(T, .close)])
    (hno : ∀ e ∈ X, (e.2 != Ev.close) = true) : nonEOT t = X := by
  rw [nonEOT, htl, List.filter_append, List.filter_eq_self.mpr hno]; simp

theorem refTimeline_no_close (f : WriteFlags) (d : Dict) (is' : List Instance) : ∀ e ∈ refTimeline f d is', e.2.2 ≠ .close :=
  forall_mem_refTimeline.mpr ⟨nofun, nofun, nofun, pieceLog_no_close goTicks d is' 0 true _ _⟩

theorem share_no_close {log : List LogE} (h : ∀ e ∈ log, e.2.2 ≠ .close) (N i : Nat) :
    ∀ e ∈ share N i log, (e.2 != Ev.close) = true := by
  intro e he
  obtain ⟨x, hx, rfl⟩ := List.mem_map.mp he
  simpa [stripT] using h x (List.mem_filter.mp hx).1

end Crd.Props.C06

namespace Crd
open Generated Props.C06

theorem TrackRun.nonEOT_eq {f : WriteFlags} {d : Dict} {is' : List Instance} {N i : Nat} {t : Track}
    (r : TrackRun f d is' N i t) : nonEOT t = share N i (refTimeline f d is') :=
  nonEOT_of r.timeline (share_no_close (refTimeline_no_close f d is') N i)

theorem TrackRun.ends {f : WriteFlags} {d : Dict} {is' : List Instance} {N i : Nat} {t : Track}
    (r : TrackRun f d is' N i t) : t.timeline = nonEOT t ++ [(totalTicks goTicks is', .close)] :=
  r.nonEOT_eq ▸ r.timeline

/-- the events of a written track, times aside -/
theorem TrackRun.events {f : WriteFlags} {d : Dict} {is' : List Instance} {N i : Nat} {t : Track}
    (r : TrackRun f d is' N i t) :
    t.ops.map (·.2) = ((refTimeline f d is').filter (fun e => route N e = i)).map (·.2.2) ++ [.close] := by
  rw [← absTimes_events 0, show absTimes 0 t.ops = t.timeline from rfl, r.timeline, List.map_append, share, List.map_map]
  rfl

end Crd

namespace Crd.Props.C06
open Crd Crd.Generated

/-- **every track, whatever N**: its events are the share of the reference timeline routed to it (order
preserved), and its end-of-track — the last event, and the only one — sits at the total duration of the piece -/
theorem every_track_ends_at_total (f : WriteFlags) (is : List Instance) (tracks : List Track)
    (h : cmdWriteTracks f is = .ok tracks) :
    ∃ (d : Dict) (N : Nat) (is' : List Instance), prepareWrite f is = .ok (d, N, is') ∧ tracks.length = N ∧
      ∀ i, i < N → ∃ t, tracks[i]? = some t ∧ t.pending = 0 ∧
        nonEOT t = ((refTimeline f d is').filter (fun e => route N e = i)).map stripT ∧
        t.timeline = nonEOT t ++ [(totalTicks goTicks is', .close)] := by
  obtain ⟨d, r⟩ := write_run h
  refine ⟨d, _, _, prepareWrite_ok.mpr r.prep, r.length, fun i hi => ?_⟩
  have ht := r.track i _ (List.getElem?_eq_getElem (r.length ▸ hi))
  exact ⟨_, List.getElem?_eq_getElem _, ht.pending, ht.nonEOT_eq, ht.ends⟩

/-- **merging the tracks gives back the reference timeline**, up to order: track `i` holds bucket `i` of it -/
theorem merged_perm {f : WriteFlags} {is : List Instance} {ts : List Track} {d : Dict} (r : WriteRun f is ts d) :
    (merged ts).Perm ((refTimeline f d (prepared f is)).map stripT) := by
  have hts : ts.map nonEOT = (List.range f.track.toNat).map fun i => share f.track.toNat i (refTimeline f d (prepared f is)) := by
    refine List.ext_getElem (by simp [r.length]) fun i h1 _ => ?_
    simp [(r.track i _ (List.getElem?_eq_getElem (by simpa using h1))).nonEOT_eq]
  have hm : merged ts = (buckets f.track.toNat (route f.track.toNat) (refTimeline f d (prepared f is))).map stripT := by
    unfold merged buckets
    rw [List.flatMap_def, hts, List.map_flatMap, List.flatMap_def]; rfl
  rw [hm]
  exact (buckets_perm (route _) (fun x _ => selector_in_range _ r.prep.count_pos _)).map _

/-- **the merged music does not depend on the track count**: for any two track counts for which the command
succeeds, the merged (tick, event) lists are permutations of each other (same events at the same absolute
ticks; only their distribution over tracks differs) -/
theorem merged_independent_of_tracks (f : WriteFlags) (is : List Instance) (n₁ n₂ : Nat)
    (ts₁ ts₂ : List Track)
    (h₁ : cmdWriteTracks { f with track := (n₁ : Int) } is = .ok ts₁)
    (h₂ : cmdWriteTracks { f with track := (n₂ : Int) } is = .ok ts₂) :
    (merged ts₁).Perm (merged ts₂) := by
  -- both are permutations of the same reference timeline: neither the dictionary nor the prepared instances depend
  -- on the track count
  obtain ⟨d₁, r₁⟩ := write_run h₁
  obtain ⟨d₂, r₂⟩ := write_run h₂
  obtain rfl : d₁ = d₂ := Option.some.inj (r₁.prep.dict.symm.trans r₂.prep.dict)
  have p₁ := merged_perm r₁
  have p₂ := merged_perm r₂
  rw [prepared_track] at p₁ p₂
  exact p₁.trans p₂.symm

/-! non-vacuity: a three-instance piece ending in a rest, on two tracks: both end at tick 2880, the length of the piece -/
def exPiece : List Instance :=
  [{ chord := some ⟨⟨1, .perfect⟩, "", none⟩, values := [⟨1, 1⟩] },
   { chord := some ⟨⟨2, .major⟩, "m7", none⟩, values := [⟨1, 2⟩], key := some ⟨.A, true, .natural⟩ },
   { values := [⟨3, 2⟩] }]
example : ((cmdWriteTracks { track := 2 } exPiece).toOption.map fun ts => ts.map fun t => t.timeline.getLast?) =
    some [some (2880, .close), some (2880, .close)] := by decide +kernel

end Crd.Props.C06
