import Crd.Generated.Sites

/-!
# Input is read whole, output is written through one route (shared by C04, C09, C10, C12, C14)

The properties about `text parse`, `text conv`, `write`, `write conv` and `info key conv` quantify over inputs of
every length.  The model takes the whole input as a list of bytes; it is entitled to do so only while the real
commands hand their whole input to the parser.  Every use of the `io`, `bufio`, `os`, `io/ioutil` and `io/fs`
packages, and every direct `Read`/`Peek`/`Scan`/`Seek`/`Stat`… on a reader, is listed from the type-checked source
on every run; the list has to be exactly the one accounted for here: the input file or stdin is opened once and read
to the end (`io.ReadAll`, or the lexer's own read to EOF), no reader is limited, windowed, scanned token-wise with
a bounded buffer, or inspected (`Stat`) to decide a route, and output goes to one `os.Create`d file or to stdout.
-/
namespace Crd.Props.IO
open Crd.Generated

def expectedIoSites : List (String × String) :=
  [("cmd/io.go getOutput os.Create", "the -o file, created once per run"),
   ("cmd/io.go getOutput os.Stdout", "otherwise stdout"),
   ("cmd/io.go parseTextOneChordSymbol io.ReadAll", "the -t chord text, read to the end"),
   ("cmd/io.go readFileOrStdin os.Open", "FILE argument"),
   ("cmd/io.go readFileOrStdin os.Stdin", "no argument or `-`"),
   ("cmd/main.go main os.Exit", "exit status"),
   ("cmd/root.go rootCmd os.Stderr", "log output"),
   ("util/conv.go OpenAndParse os.Open", "dictionary files"),
   ("util/conv.go ReadAndParse io.ReadAll", "YAML input, read to the end")]

/-- **the uses of the input/output packages regenerated from /repo are exactly those accounted for**: a limited or
token-wise reader, a size cap, a second way of opening the output, or a route chosen by inspecting the input file
breaks this obligation -/
theorem io_sites_accounted : ioSites = expectedIoSites.map (·.1) := rfl

end Crd.Props.IO
