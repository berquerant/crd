import Crd.Props.C13

/-!
# C14 — circle-of-fifths conversions obey their laws for every key and every chain

"For every supported key, dominant moves the tonic up and subdominant down a perfect fifth keeping the mode,
relative keeps the key signature and switches mode, parallel keeps the tonic pitch and switches mode, and the
result always lists every supported spelling of the target key.  Consequently every chain of conversions of any
length succeeds and equals the composition of its steps: dominant and subdominant are inverses, relative and
parallel are involutions, twelve dominants return to the start, and the answer does not depend on which
enharmonic spelling an intermediate result is read by."

Finite facts are decided by kernel evaluation of the model over the regenerated ring seeds and deltas; chains of
ANY length and ANY iteration order of the member set are handled by induction.
-/
namespace Crd.Props.C14
open Crd Crd.Spec Crd.Props.C13

/-- the circle of fifths crd builds at start-up -/
def C : Circles := circles?.getD ⟨[], []⟩

abbrev Pos := Bool × Nat          -- (minor?, slot index)

def positions : List Pos := [false, true].flatMap fun m => (List.range 12).map fun i => (m, i)

def slot (p : Pos) : Member := (C.ring p.1)[p.2]!

/-- what each conversion does to a position: the specification of the four moves in ℤ/12 -/
def absStep (p : Pos) : KConv → Pos
  | .dominant => (p.1, (p.2 + 1) % 12)
  | .subdominant => (p.1, (p.2 + 11) % 12)
  | .relative => (!p.1, p.2)
  | .parallel => (!p.1, if p.1 then (p.2 + 3) % 12 else (p.2 + 9) % 12)
  | .unknown => p

def tonicPC (k : Key) : Int := (naturalPitch k.name + accShift k.acc).emod 12

def moves : List KConv := [.parallel, .relative, .dominant, .subdominant]

/-- the musical meaning of each move, between two keys (spec side, no tables).  Signatures are compared up to
enharmonic equivalence (12 fifths): the slot B/Cb holds 5 sharps and 7 flats. -/
def related (x : KConv) (a b : Key) : Bool :=
  match x with
  | .dominant => b.minor == a.minor && tonicPC b == (tonicPC a + 7).emod 12
  | .subdominant => b.minor == a.minor && tonicPC b == (tonicPC a + 5).emod 12
  | .relative => b.minor != a.minor && (conventionalSignature b - conventionalSignature a).emod 12 == 0
  | .parallel => b.minor != a.minor && tonicPC b == tonicPC a
  | .unknown => false

theorem absStep_mem : ∀ p ∈ positions, ∀ x ∈ moves, absStep p x ∈ positions := by decide

/-- **rings aligned** — everything that is read off the two rings, in one evaluation: both have 12 non-empty
slots; every key of a slot has the slot's mode, is supported and is found at that index; every move sends it to the
whole slot the abstract step names, whose keys are exactly the supported keys that theory relates to it; and every
supported key sits in some slot -/
theorem rings_aligned :
    C.majors.length = 12 ∧ C.minors.length = 12 ∧
    (∀ p ∈ positions, slot p ≠ [] ∧ ∀ k ∈ slot p,
      k.minor = p.1 ∧ (newScale k).isSome = true ∧ ringIndex (C.ring k.minor) k = some p.2 ∧
      ∀ x ∈ moves, x.apply C k = some (slot (absStep p x)) ∧ (∀ k' ∈ slot (absStep p x), related x k k' = true) ∧
        (∀ k'' ∈ requiredKeys, related x k k'' = true → k'' ∈ slot (absStep p x))) ∧
    (∀ k ∈ requiredKeys, ∃ p ∈ positions, k ∈ slot p) := by decide +kernel

/-- the rings build without a `Must*` panic -/
theorem circles_build : circles?.isSome = true := by
  have h := rings_aligned.1
  unfold C at h
  cases hc : circles? with
  | some _ => rfl
  | none => rw [hc] at h; cases h

/-! the clauses of `rings_aligned`, by name -/

theorem slot_ne_nil {p : Pos} (hp : p ∈ positions) : slot p ≠ [] := (rings_aligned.2.2.1 p hp).1

theorem slot_mode {p : Pos} {k : Key} (hp : p ∈ positions) (hk : k ∈ slot p) : k.minor = p.1 :=
  ((rings_aligned.2.2.1 p hp).2 k hk).1

theorem slot_index {p : Pos} {k : Key} (hp : p ∈ positions) (hk : k ∈ slot p) : ringIndex (C.ring k.minor) k = some p.2 :=
  ((rings_aligned.2.2.1 p hp).2 k hk).2.2.1

/-- what a move does to a key of a slot: the target is the whole slot the abstract step names, and its keys are
exactly the supported keys that theory relates to the key -/
theorem slot_move {p : Pos} {k : Key} (hp : p ∈ positions) (hk : k ∈ slot p) {x : KConv} (hx : x ∈ moves) :
    x.apply C k = some (slot (absStep p x)) ∧ (∀ k' ∈ slot (absStep p x), related x k k' = true) ∧
      (∀ k'' ∈ requiredKeys, related x k k'' = true → k'' ∈ slot (absStep p x)) :=
  ((rings_aligned.2.2.1 p hp).2 k hk).2.2.2 x hx

theorem required_slot {k : Key} (hk : k ∈ requiredKeys) : ∃ p ∈ positions, k ∈ slot p := rings_aligned.2.2.2 k hk

/-- the slot position of a supported key is unique -/
theorem pos_unique (k : Key) (p q : Pos) (hp : p ∈ positions) (hq : q ∈ positions) (hkp : k ∈ slot p) (hkq : k ∈ slot q) : p = q :=
  Prod.ext ((slot_mode hp hkp).symm.trans (slot_mode hq hkq))
    (Option.some.inj ((slot_index hp hkp).symm.trans (slot_index hq hkq)))

/-- **each move means what theory says, from every supported key, and lists every supported spelling** -/
theorem step_semantics : ∀ k ∈ requiredKeys, ∀ x ∈ moves,
    ∃ m, x.apply C k = some m ∧ m ≠ [] ∧ (∀ k' ∈ m, related x k k' = true) ∧
      (∀ k'' ∈ requiredKeys, related x k k'' = true → k'' ∈ m) := by
  intro k hk x hx
  obtain ⟨p, hp, hkp⟩ := required_slot hk
  exact ⟨_, (slot_move hp hkp hx).1, slot_ne_nil (absStep_mem p hp x hx), (slot_move hp hkp hx).2⟩

/-- order oracle: Go iterates the member's key set in an arbitrary order; any selection of at least one key -/
def OrdOK (ord : Member → Member) : Prop := ∀ m, m ≠ [] → ord m ≠ [] ∧ ∀ k ∈ ord m, k ∈ m

theorem chainStep_slot (ord : Member → Member) (ho : OrdOK ord) (p : Pos) (hp : p ∈ positions)
    (m : Member) (hne : m ≠ []) (hsub : ∀ k ∈ m, k ∈ slot p) (x : KConv) (hx : x ∈ moves) :
    chainStep C ord m x = some (slot (absStep p x)) := by
  obtain ⟨hne', hsub'⟩ := ho m hne
  unfold chainStep
  cases hom : ord m with
  | nil => exact absurd hom hne'
  | cons k ks =>
    have hk : k ∈ slot p := hsub k (hsub' k (by rw [hom]; simp))
    simp [(slot_move hp hk hx).1]

/-- from a whole slot every chain, the empty one too, leads to the whole slot its steps name -/
theorem chainFold_of_slot (ord : Member → Member) (ho : OrdOK ord) : ∀ (chain : List KConv), (∀ x ∈ chain, x ∈ moves) →
    ∀ p ∈ positions, chainFold C ord (slot p) chain = some (slot (chain.foldl absStep p))
  | [], _, _, _ => rfl
  | x :: xs, hc, p, hp => by
    have hx : x ∈ moves := hc x (by simp)
    simp only [chainFold, chainStep_slot ord ho p hp _ (slot_ne_nil hp) (fun _ h => h) x hx, List.foldl_cons]
    exact chainFold_of_slot ord ho xs (fun z hz => hc z (by simp [hz])) _ (absStep_mem p hp x hx)

/-- from some spellings of a slot the first step leads to a whole slot; hence the chain must not be empty -/
theorem chainFold_slot (ord : Member → Member) (ho : OrdOK ord) (chain : List KConv) (hc : ∀ x ∈ chain, x ∈ moves) :
    ∀ (p : Pos), p ∈ positions → ∀ (m : Member), m ≠ [] → (∀ k ∈ m, k ∈ slot p) → chain ≠ [] →
      chainFold C ord m chain = some (slot (chain.foldl absStep p)) := by
  intro p hp m hne hsub hch
  obtain ⟨x, xs, rfl⟩ := List.exists_cons_of_ne_nil hch
  have hx : x ∈ moves := hc x (by simp)
  simp only [chainFold, chainStep_slot ord ho p hp m hne hsub x hx, List.foldl_cons]
  exact chainFold_of_slot ord ho xs (fun z hz => hc z (by simp [hz])) _ (absStep_mem p hp x hx)

/-- **every chain succeeds and equals the composition of its steps, whatever spelling is read at each step** -/
theorem chain_is_composition (ord : Member → Member) (ho : OrdOK ord) (k : Key) (hk : k ∈ requiredKeys)
    (chain : List KConv) (hne : chain ≠ []) (hc : ∀ x ∈ chain, x ∈ moves) :
    ∃ p ∈ positions, k ∈ slot p ∧ chainConvert C ord k chain = some (slot (chain.foldl absStep p)) := by
  obtain ⟨p, hp, hkp⟩ := required_slot hk
  refine ⟨p, hp, hkp, ?_⟩
  obtain ⟨s, hns⟩ := Option.isSome_iff_exists.mp (supports_required k hk)
  simp only [chainConvert, hns, newScale_key hns]
  exact chainFold_slot ord ho chain hc p hp [k] (by simp) (by simpa using hkp) hne

/-- a chain matters only through what it does to positions: two non-empty chains that act alike give the same
answer, whatever spelling is read at each step of either -/
theorem chain_congr (ord₁ ord₂ : Member → Member) (h₁ : OrdOK ord₁) (h₂ : OrdOK ord₂) (k : Key) (hk : k ∈ requiredKeys)
    (c₁ c₂ : List KConv) (hn₁ : c₁ ≠ []) (hn₂ : c₂ ≠ []) (hc₁ : ∀ x ∈ c₁, x ∈ moves) (hc₂ : ∀ x ∈ c₂, x ∈ moves)
    (h : ∀ p ∈ positions, c₁.foldl absStep p = c₂.foldl absStep p) :
    chainConvert C ord₁ k c₁ = chainConvert C ord₂ k c₂ := by
  obtain ⟨p, hp, hkp, e₁⟩ := chain_is_composition ord₁ h₁ k hk c₁ hn₁ hc₁
  obtain ⟨q, hq, hkq, e₂⟩ := chain_is_composition ord₂ h₂ k hk c₂ hn₂ hc₂
  rw [e₁, e₂, pos_unique k p q hp hq hkp hkq, h q hq]

/-- the result does not depend on the iteration order (the enharmonic spelling read at each step) -/
theorem spelling_independent (ord₁ ord₂ : Member → Member) (h₁ : OrdOK ord₁) (h₂ : OrdOK ord₂)
    (k : Key) (hk : k ∈ requiredKeys) (chain : List KConv) (hc : ∀ x ∈ chain, x ∈ moves) :
    chainConvert C ord₁ k chain = chainConvert C ord₂ k chain := by
  cases chain with
  | nil => simp [chainConvert, chainFold]
  | cons x xs => exact chain_congr ord₁ ord₂ h₁ h₂ k hk _ _ (by simp) (by simp) hc hc (fun _ _ => rfl)

theorem foldl_mem_positions (l : List KConv) (h : ∀ x ∈ l, x ∈ moves) : ∀ r ∈ positions, l.foldl absStep r ∈ positions := by
  induction l with
  | nil => intro r hr; exact hr
  | cons y ys ih => intro r hr; exact ih (fun z hz => h z (by simp [hz])) _ (absStep_mem r hr y (h y (by simp)))

/-- group laws of the abstract moves: d∘s = s∘d = id, r∘r = id, p∘p = id, d¹² = s¹² = id -/
theorem move_laws : ∀ p ∈ positions,
    absStep (absStep p .dominant) .subdominant = p ∧ absStep (absStep p .subdominant) .dominant = p ∧
    absStep (absStep p .relative) .relative = p ∧ absStep (absStep p .parallel) .parallel = p ∧
    (List.replicate 12 KConv.dominant).foldl absStep p = p ∧
    (List.replicate 12 KConv.subdominant).foldl absStep p = p := by decide

/-- consequently, for chains: appending d·s, s·d, r·r, p·p or twelve d's to any non-empty chain changes nothing -/
theorem chain_laws (ord : Member → Member) (ho : OrdOK ord) (k : Key) (hk : k ∈ requiredKeys)
    (chain : List KConv) (hne : chain ≠ []) (hc : ∀ x ∈ chain, x ∈ moves)
    (tail : List KConv) (ht : tail ∈ [[.dominant, .subdominant], [.subdominant, .dominant], [.relative, .relative],
      [.parallel, .parallel], List.replicate 12 KConv.dominant, List.replicate 12 KConv.subdominant]) :
    chainConvert C ord k (chain ++ tail) = chainConvert C ord k chain := by
  simp only [List.mem_cons, List.mem_nil_iff, or_false] at ht
  have htm : ∀ x ∈ tail, x ∈ moves := by rcases ht with rfl | rfl | rfl | rfl | rfl | rfl <;> decide
  refine chain_congr ord ord ho ho k hk _ _ (by simp [hne]) hne (List.forall_mem_append.mpr ⟨hc, htm⟩) hc fun p hp => ?_
  obtain ⟨l1, l2, l3, l4, l5, l6⟩ := move_laws _ (foldl_mem_positions chain hc p hp)
  rw [List.foldl_append]
  rcases ht with rfl | rfl | rfl | rfl | rfl | rfl <;> simp only [List.foldl_cons, List.foldl_nil, l1, l2, l3, l4, l5, l6]

theorem replicate_rotate (x : KConv) (c : Nat) (hx : ∀ p : Pos, absStep p x = (p.1, (p.2 + c) % 12)) (n : Nat) :
    ∀ (p : Pos), p.2 < 12 → (List.replicate n x).foldl absStep p = (p.1, (p.2 + c * n) % 12) := by
  induction n with
  | zero => intro p hp; simp [Nat.mod_eq_of_lt hp]
  | succ n ih =>
    intro p hp
    rw [List.replicate_succ, List.foldl_cons, hx, ih _ (Nat.mod_lt _ (by decide)), Nat.mul_succ]
    congr 1
    simp only
    omega

theorem dominants_rotate (n : Nat) : ∀ (p : Pos), p.2 < 12 →
    (List.replicate n KConv.dominant).foldl absStep p = (p.1, (p.2 + n) % 12) := by
  simpa using replicate_rotate .dominant 1 (fun _ => rfl) n

theorem subdominants_rotate (n : Nat) : ∀ (p : Pos), p.2 < 12 →
    (List.replicate n KConv.subdominant).foldl absStep p = (p.1, (p.2 + 11 * n) % 12) :=
  replicate_rotate .subdominant 11 (fun _ => rfl) n

theorem positions_lt : ∀ p ∈ positions, p.2 < 12 := by decide

/-- **only the net rotation of a run counts**: anywhere inside a command, `a` dominants followed by `b`
subdominants may be replaced by `(a + 11·b) mod 12` dominants — for every `a` and `b`, however many turns of the
circle the run makes in either direction (a run of thirteen subdominants is one subdominant, not nothing).  The
command that remains must not be empty: an empty command answers with the one spelling it was given, a command
that cancels out with every spelling of that key. -/
theorem net_rotation (ord : Member → Member) (ho : OrdOK ord) (k : Key) (hk : k ∈ requiredKeys) (a b : Nat)
    (pre post : List KConv) (hne : pre ++ List.replicate ((a + 11 * b) % 12) KConv.dominant ++ post ≠ []) (hpre : ∀ x ∈ pre, x ∈ moves) (hpost : ∀ x ∈ post, x ∈ moves) :
    chainConvert C ord k (pre ++ (List.replicate a .dominant ++ List.replicate b .subdominant) ++ post) =
    chainConvert C ord k (pre ++ List.replicate ((a + 11 * b) % 12) .dominant ++ post) := by
  have hd : KConv.dominant ∈ moves := by decide
  have hs : KConv.subdominant ∈ moves := by decide
  have hne1 : pre ++ (List.replicate a KConv.dominant ++ List.replicate b KConv.subdominant) ++ post ≠ [] :=
    fun h => hne (by simp_all)
  refine chain_congr ord ord ho ho k hk _ _ hne1 hne ?_ ?_ fun p hp => ?_
  · simp only [List.forall_mem_append, List.forall_mem_replicate]; exact ⟨⟨hpre, .inr hd, .inr hs⟩, hpost⟩
  · simp only [List.forall_mem_append, List.forall_mem_replicate]; exact ⟨⟨hpre, .inr hd⟩, hpost⟩
  simp only [List.foldl_append]
  have hlt := positions_lt _ (foldl_mem_positions pre hpre p hp)
  generalize pre.foldl absStep p = r at hlt
  rw [dominants_rotate a r hlt, subdominants_rotate b _ (Nat.mod_lt _ (by decide)), dominants_rotate _ r hlt]
  congr 2
  simp only
  omega

example : chainConvert C id ⟨.C, false, .natural⟩ (List.replicate 13 .subdominant) = some [⟨.F, false, .natural⟩] := by decide +kernel
/-- why `net_rotation` asks for a non-empty remainder: a command that cancels out names both spellings of B/Cb, the
empty command only the one it was given -/
example : (chainConvert C id ⟨.C, false, .flat⟩ [.dominant, .subdominant]).map List.length = some 2 ∧
    (chainConvert C id ⟨.C, false, .flat⟩ []).map List.length = some 1 := by decide +kernel
example : OrdOK id := fun _ h => ⟨h, fun _ hk => hk⟩
example : OrdOK List.reverse := fun _ h => ⟨by simpa using h, fun _ hk => by simpa using hk⟩
example : chainConvert C id ⟨.E, false, .natural⟩ [.dominant, .parallel, .relative, .subdominant] =
    some [⟨.G, false, .natural⟩] := by decide +kernel
example : (⟨.E, false, .natural⟩ : Key) ∈ requiredKeys := by decide

end Crd.Props.C14
