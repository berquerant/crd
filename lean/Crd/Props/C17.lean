import Crd.Props.C13
import Crd.Lemmas.Diatonic

/-!
# C17 — the diatonic chords crd reports for a key are playable and stay inside that key

"For every supported key, the seven triads and seven seventh chords printed by `crd info key describe` are written
in crd's own chord notation on the seven scale notes in order, carry the qualities of the major-key (maj min min
maj maj min dim / maj7 m7 m7 maj7 7 m7 m7b5) or natural-minor harmonisation, and — fed back through
`text conv syllable --key K` and `write --key K` — sound only notes of that key's scale."

Decided by kernel evaluation THROUGH THE COMPOSED MODEL (lexer, parser, classifier, syllable converter,
dictionary, Key.Apply) for all 28 keys × 14 chords; the expected qualities come from stacking thirds on the
step pattern (`Crd.Spec.diatonicSymbol`), not from crd's name tables.
-/
namespace Crd.Props.C17
open Crd Crd.Spec Crd.Props.C13

/-- the harmonisation computed from the step patterns is the textbook one -/
theorem harmonisation_is_textbook :
    (List.range 7).map (diatonicSymbol false false) = [some "", some "m", some "m", some "", some "", some "m", some "dim"] ∧
    (List.range 7).map (diatonicSymbol false true) = [some "maj7", some "m7", some "m7", some "maj7", some "7", some "m7", some "m7b5"] ∧
    (List.range 7).map (diatonicSymbol true false) = [some "m", some "dim", some "", some "m", some "m", some "", some ""] ∧
    (List.range 7).map (diatonicSymbol true true) = [some "m7", some "m7b5", some "maj7", some "m7", some "m7", some "maj7", some "7"] := by
  decide

theorem all_keys_ok : ∀ k ∈ requiredKeys, diatonicKeyOK k = true := by decide +kernel

/-- **C17**: for every key with a scale, every listed triad and seventh chord `str` (the i-th of its list):
it lexes and parses as ONE chord, is written on the i-th scale note, converts (in key K) to degree number i+1
without bass, its symbol is the harmonisation's and is in the dictionary, and playing it in key K sounds
4 (5) notes whose pitch classes all belong to the key's scale. -/
theorem diatonic_chords_playable_in_key (k : Key) (s : Scale) (hs : newScale k = some s)
    (seventh : Bool) (i : Nat) (hi : i < 7) :
    ∃ str, (diatonicChords s seventh)[i]? = some str ∧ diatonicChordOK k s seventh i str = true := by
  have h := all_keys_ok k (required_of_newScale hs)
  unfold diatonicKeyOK at h
  simp only [hs, List.all_eq_true, Bool.and_eq_true] at h
  have h3 := (h seventh (by cases seventh <;> simp)).2 i (by simpa using hi)
  cases hstr : (diatonicChords s seventh)[i]? with
  | none => simp [hstr] at h3
  | some str => exact ⟨str, rfl, by simpa [hstr] using h3⟩

example : (newScale ⟨.E, false, .flat⟩).map (fun s => (diatonicChords s true)) =
    some ["Ebmaj7", "Fm7", "Gm7", "Abmaj7", "Bb_7", "Cm7", "Dm7b5"] := by decide
example : scaleOffsets true = [0, 2, 3, 5, 7, 8, 10] := by decide

end Crd.Props.C17
