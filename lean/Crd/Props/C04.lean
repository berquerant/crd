import Crd.Lemmas.GrammarTie
import Crd.Lemmas.ParserComplete
import Crd.Lemmas.LexTrivia

/-!
# C04 — the accepted chord language is exactly the documented grammar; trees faithful

"`crd text parse` / `text conv` accept a text if and only if it is a sentence of the grammar in
input/ast/chords.y under the documented tokenisation (spaces and `;` comments ignored, `_` introduces a symbol,
`{...}` switches to key=value mode), and for an accepted text the tree lists, in order, exactly the chords and
rests written, each with its root, accidental, symbol, bass, duration fractions and metadata pairs as written.
Anything else — including every proper prefix cut inside a chord — is rejected with an error; no suffix is ever
silently dropped.  The parser shipped is the one goyacc generates from that grammar file."

Proved here, for ALL token lists / strings: the model's parser decides exactly the language that the grammar
(as DATA regenerated from chords.y) derives; the tree is faithful; the lexer terminates and never stops silently
inside the input.  The last sentence is decided directly on every run by re-running goyacc (oracle `goyacc-regen`),
and the goyacc automaton is compared with the model's parser on all token strings up to a length bound plus
generated/mutated sentences (stream `parse`).
-/
namespace Crd.Props.C04
open Crd Crd.Spec Crd.Generated

/-- the grammar the proofs are about is the one in chords.y: 28 productions over 16 tokens, start `result` -/
theorem grammar_shape : grammarRules.length = 28 ∧ grammarTokens.length = 16 ∧
    (grammarRules.head?.map (·.lhs)) = some .result := by decide

/-- **the parser decides the grammar**: a token list is accepted iff its kinds are derivable from the start
symbol by the productions of chords.y -/
theorem parser_decides_grammar (ts : List Tok) :
    (parseToks ts).isSome = true ↔ Derives grammarRules (.n .result) (kinds ts) := by
  rw [parseToks_iff, lang_iff_derives]

/-- **tree faithfulness**: the tree of an accepted token list lists, in order, exactly the tokens read (kind and
text of every root, accidental, symbol, bass, numerator, denominator, metadata key and value; punctuation by
kind); only the optional `_` before a symbol is not recorded.  Nothing is dropped, nothing invented, nothing
reordered; in particular a trailing suffix cannot be ignored. -/
theorem tree_faithful (ts : List Tok) (items : List Item) (h : parseToks ts = some items) :
    items ≠ [] ∧ sigs ts = items.flatMap rItem :=
  (parseToks_sound ts items h).2

/-- the empty text has no tree -/
theorem empty_rejected : parseToks [] = none := by decide

/-- no suffix is silently dropped: if `ts ++ junk` is accepted then the tree accounts for every token of `junk`
too -/
theorem no_suffix_dropped (ts junk : List Tok) (items : List Item) (h : parseToks (ts ++ junk) = some items) :
    sigs ts ++ sigs junk = items.flatMap rItem := by
  rw [← sigs_append]; exact (tree_faithful _ items h).2

/-- a sentence cut inside a chord or rest is rejected: every accepted list ends with `]` or `}` -/
theorem accepted_ends_closed (ts : List Tok) (h : (parseToks ts).isSome = true) :
    ∃ t, ts.getLast? = some t ∧ (t.k = .RBRA ∨ t.k = .RCBRA) := by
  -- an item ends with `]` or with the `}` of its metadata, and a list ends with its last item
  have item : ∀ i, LItem i → i.getLast? = some .RBRA ∨ i.getLast? = some .RCBRA := by
    rintro _ (⟨vs, m, _, hm⟩ | ⟨d, s, b, vs, m, _, _, _, _, hm⟩) <;> cases hm <;>
      simp [List.getLast?_append, List.getLast?_cons]
  have list : ∀ l, LList l → l.getLast? = some .RBRA ∨ l.getLast? = some .RCBRA := by
    rintro _ (⟨_, hi⟩ | ⟨l, i, _, hi⟩)
    · exact item _ hi
    · rcases item i hi with h | h <;> simp [List.getLast?_append, h]
  have := list _ ((parseToks_iff ts).mp h)
  simp only [kinds, List.getLast?_map] at this
  cases hts : ts.getLast? <;> simp_all

/-- the lexer terminates on every input (no hang at end of input, D2 fixed): the outcome is a token list followed
by a silent end of input, or an "expect symbol" error -/
theorem lexer_total (s : List Char) : (∃ ts, lexChars s = .ok ts) ∨ (∃ ts, lexChars s = .err ts) := by
  cases h : lexChars s with
  | ok ts => exact Or.inl ⟨ts, rfl⟩
  | err ts => exact Or.inr ⟨ts, rfl⟩
  | hang ts => exact absurd h (lex_total s ts)

/-- the scanner's silent `default: return EOF` cannot fire inside the input: any rune that is not white space,
the comment start, a single-rune token or a digit starts a symbol -/
theorem no_silent_stop (c : Char) (hs : isSpace c = false) (hc : c ≠ commentStart) (ht : singleTok c = none) :
    isSymbolRune c = true := unhandled_is_symbol c hs hc ht

/-- **acceptance**: the text commands accept exactly the texts whose token stream ends silently at the end of
input and is a sentence of the grammar; everything else is an error (never a crash, never a hang) -/
theorem accepts_iff (s : List Char) :
    (∃ t, parseTextChars s = .ok t) ↔ ∃ ts, lexChars s = .ok ts ∧ Derives grammarRules (.n .result) (kinds ts) := by
  unfold parseTextChars
  cases lexChars s with
  | ok ts => cases h : parseToks ts <;> simp [← parser_decides_grammar, h]
  | _ => simp

theorem never_crashes (s : List Char) : ∀ site, parseTextChars s ≠ .error (.hang site) ∧ parseTextChars s ≠ .error (.panic site) := by
  intro site
  constructor <;> intro h <;> cases parseTextChars_error h

/-- **every character of the text is accounted for** ("as written", "no suffix is ever silently dropped", at the level
of characters): when the lexer ends silently with the tokens `ts`, the text is exactly those tokens' own characters, in
order, with nothing but white space and `;` comments before, between and after them -/
theorem text_is_tokens_and_trivia (s : List Char) (ts : List Tok) (h : lexChars s = .ok ts) : ∃ gaps, Weave gaps ts s :=
  lex_faithful s ts h

example : (parseTextChars "C#m7b5[1] ;c\n Bb_7/D[1/4,2]{txt=hi there,key=Am}".toList).toOption.map (·.length) = some 2 := by decide +kernel
example : (parseTextChars "C[1".toList).toOption.isNone = true := by decide
example : (parseTextChars "C[1] ]".toList).toOption.isNone = true := by decide

end Crd.Props.C04
