import Crd.Props.C13
import Crd.Lemmas.Piece

/-!
# C07 — tempo, meter, key-signature and text events: right value at the right time

"At tick 0 the file states tempo, time signature and key signature (100 bpm, 4/4, C unless the first instance or a
--bpm, --meter, --key or --velocity flag says otherwise; flags replace the first instance's settings only), and each
later instance that sets bpm, meter or key produces the corresponding event at that instance's start with
microseconds-per-quarter = 60,000,000/bpm, the written numerator/denominator, and the conventional number of
sharps or flats and mode of the key.  `txt`, `lic`, `mrk` metadata become text, lyric and marker events with the
exact (UTF-8) text at the start of their instance; a dynamic (pp..ff) sets the velocity of all following notes,
louder never quieter."
-/
namespace Crd.Props.C07
open Crd Crd.Generated Crd.Spec Crd.Props.C13 Crd.Props.C06

theorem defaults : defaultBPM = 100 ∧ defaultMeter = (4, 4) ∧ defaultKey = ⟨.C, false, .natural⟩ ∧ defaultVelocity = .mp ∧
    metaTextKey = "txt" ∧ metaLyricKey = "lic" ∧ metaMarkerKey = "mrk" := by decide

/-- the first instance always states tempo, meter and key — its own values or the defaults — then its texts -/
theorem first_instance_states_all (i : Instance) :
    settingsCalls true i = (keySigCall (i.key.getD defaultKey)).map fun k =>
      [WCall.tempo (i.bpm.getD defaultBPM), meterCall (i.meter.getD ⟨defaultMeter.1, defaultMeter.2⟩), k] ++ textCalls (i.mta.getD []) := by
  unfold settingsCalls
  cases keySigCall (i.key.getD defaultKey) <;> simp

/-- a later instance emits an event exactly for each of bpm / meter / key / metadata it carries, with its own
value, in this order; nothing when it carries none -/
theorem later_instance_exactly_its_settings (i : Instance) :
    settingsCalls false i =
      (match i.key with | none => some [] | some k => (keySigCall k).map ([·])).map fun k =>
        (i.bpm.map WCall.tempo).toList ++ (i.meter.map meterCall).toList ++ k ++ (i.mta.map textCalls).getD [] := by
  cases hk : i.key <;> simp [settingsCalls, hk]

/-- texts: `txt`, `lic`, `mrk` with a non-empty value become text, lyric, marker calls carrying exactly that
value (an empty value counts as absent, as the code does) -/
theorem text_calls (m : List (String × String)) :
    textCalls m = (if metaGet m "txt" ≠ "" then [WCall.text (metaGet m "txt")] else []) ++
                  (if metaGet m "lic" ≠ "" then [WCall.lyric (metaGet m "lic")] else []) ++
                  (if metaGet m "mrk" ≠ "" then [WCall.marker (metaGet m "mrk")] else []) := by
  obtain ⟨_, _, _, _, h1, h2, h3⟩ := defaults
  unfold textCalls; rw [h1, h2, h3]

def isSetting (e : LogE) : Bool :=
  match e.2.2 with
  | .tempo _ | .meter _ _ | .keySig _ _ _ _ | .text _ | .lyric _ | .marker _ => true
  | _ => false

/-- **the right time**: the setting events of the whole piece are, instance by instance, that instance's setting
events, all stamped with the instance's start tick (the sum of the lengths before it) — first instance at 0 -/
theorem settings_at_instance_start (f : WriteFlags) (d : Dict) (is' : List Instance) :
    (refTimeline f d is').filter isSetting =
      (List.range is'.length).flatMap fun j => match is'[j]? with
        | none => []
        | some i => instSettings (j == 0) (startAt goTicks is' j) i := by
  unfold refTimeline
  rw [List.filter_append, show (initLog f.instrument f.program defaultSequenceName).filter isSetting = [] from rfl]
  refine pieceLog_filter_by_instance goTicks d isSetting is' 0 true _ _ _ fun j i h => ?_
  simp [h, instLog_filter (p := isSetting) (s := true) (on := false) (off := false)
    (fun _ c _ hc => by cases c <;> simp [WCall.metaEv] at hc <;> subst hc <;> rfl) (fun _ _ _ _ => rfl) (fun _ _ _ => rfl)]

/-- flags: a flag left at its empty/zero default changes nothing; a set flag replaces that setting of the first
instance (and only of the first: `prepared_tail_unchanged` in C01) -/
theorem flags_override_first_instance (f : WriteFlags) (i i' : Instance) (h : overrideFromFlags f i = .ok i') :
    i'.bpm = (if f.bpm = 0 then i.bpm else some f.bpm) ∧
    (f.velocity = "" → i'.velocity = i.velocity) ∧ (f.velocity ≠ "" → i'.velocity = some (Dyn.ofString f.velocity) ∧ Dyn.ofString f.velocity ≠ .unknown) ∧
    (f.meter = "" → i'.meter = i.meter) ∧ (f.meter ≠ "" → i'.meter = parseRat f.meter.toList ∧ i'.meter.isSome) ∧
    (f.key = "" → i'.key = i.key) ∧ (f.key ≠ "" → i'.key = parseKey f.key.toList ∧ i'.key.isSome) ∧
    i'.mta = i.mta ∧ i'.chord = i.chord ∧ i'.values = i.values := by
  obtain ⟨hf, rfl⟩ := overrideFromFlags_ok.mp h
  refine ⟨rfl, fun h => by simp [overridden, h], fun h => ?_, fun h => by simp [overridden, h], fun h => ?_,
    fun h => by simp [overridden, h], fun h => ?_, rfl, rfl, rfl⟩
  · simpa [overridden, h] using hf.velocity
  · obtain ⟨r, hr, _⟩ := hf.meter.resolve_left h
    simp [overridden, h, hr]
  · simpa [overridden, h] using hf.key

/-- time signature: numerator, log₂ of the denominator, 8, 8 — for every numerator and every power-of-two
denominator that fits a byte -/
theorem meter_payload (n : Nat) : ∀ k ∈ List.range 8, (Ev.meter n (2 ^ k)).bytes = [0xFF, 0x58, 4, n, k, 8, 8] := by
  have h : ∀ k ∈ List.range 8, dec2binDenom (2 ^ k) = k ∧ vlq 4 = [4] := by decide
  intro k hk
  obtain ⟨h1, h2⟩ := h k hk
  simp [Ev.bytes, metaMsg, h1, h2]

/-- key signature: for every supported key, sf = +sharps / −flats = the conventional signature (line of fifths,
C13's specification) as a two's-complement byte, mi = 1 for minor -/
theorem keysig_payload : ∀ k ∈ requiredKeys,
    (match keySigCall k with
     | some (.keySig t ma n fl) =>
        decide ((Ev.keySig t ma n fl).bytes = [0xFF, 0x59, 2, ((conventionalSignature k).emod 256).toNat, if k.minor then 1 else 0])
     | _ => false) = true := by decide +kernel

/-- text, lyric and marker events carry exactly the UTF-8 bytes of the value -/
theorem text_payload (s : String) :
    (Ev.text s).bytes = [0xFF, 0x01] ++ vlq (strBytes s).length ++ strBytes s ∧
    (Ev.lyric s).bytes = [0xFF, 0x05] ++ vlq (strBytes s).length ++ strBytes s ∧
    (Ev.marker s).bytes = [0xFF, 0x06] ++ vlq (strBytes s).length ++ strBytes s := ⟨rfl, rfl, rfl⟩

/-- tempo: three big-endian bytes of the value gomidi computes -/
theorem tempo_payload_shape (bpm : Nat) (h : tempoMicros bpm < 2 ^ 24) :
    (Ev.tempo bpm).bytes = [0xFF, 0x51, 3] ++ be 3 (tempoMicros bpm) := by
  have hv : vlq 3 = [3] := by decide
  have hl : (be 3 (tempoMicros bpm)).length = 3 := by simp [be]
  have hmin : min (tempoMicros bpm) 0x0FFFFFFF = tempoMicros bpm := by
    apply Nat.min_eq_left; have : (2:Nat) ^ 24 ≤ 0x0FFFFFFF := by decide
    omega
  simp [Ev.bytes, metaMsg, tempoPayload, hmin, h, hl, hv]

/-- the six dynamics map to strictly increasing velocities pp < p < mp < mf < f < ff, all positive, none above 127 -/
theorem dynamics_monotone :
    0 < Dyn.velocity .pp ∧ Dyn.velocity .pp < Dyn.velocity .p ∧ Dyn.velocity .p < Dyn.velocity .mp ∧
    Dyn.velocity .mp < Dyn.velocity .mf ∧ Dyn.velocity .mf < Dyn.velocity .f ∧ Dyn.velocity .f < Dyn.velocity .ff ∧
    Dyn.velocity .ff ≤ 127 ∧
    [Dyn.ofString "pp", Dyn.ofString "p", Dyn.ofString "mp", Dyn.ofString "mf", Dyn.ofString "f", Dyn.ofString "ff"] =
      [.pp, .p, .mp, .mf, .f, .ff] := by decide

/-- a dynamic persists: the velocity of the notes of instance `j` is that of the most recent dynamic at or before
it (mp at the start) — `dynAt` is by definition that most recent value, and `instOns` uses it -/
theorem velocity_persists (v0 : Dyn) (is : List Instance) (j : Nat) :
    dynAt v0 is j = (((is.take (j + 1)).filterMap (·.velocity)).getLast?).getD v0 := rfl

example : settingsCalls true { values := [⟨1, 1⟩] } = some [.tempo 100, .meter 4 4, .keySig 0 true 0 false] := by decide +kernel
example : settingsCalls false { values := [⟨1, 1⟩], bpm := some 90, mta := some [("txt", "é")] } = some [.tempo 90, .text "é"] := by
  decide
example : tempoMicros 120 = 500000 := by decide

end Crd.Props.C07
