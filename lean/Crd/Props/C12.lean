import Crd.Model.Dict
import Crd.Lemmas.Order
import Crd.Lemmas.Degree
import Crd.Props.C14
import Crd.Generated.Sites

/-!
# C12 — same command, same input, same bytes: on every run and every I/O path

"Every data-producing crd command prints byte-identical standard output (and the same success/failure) each
time it is run with the same arguments and input, regardless of CPU count, goroutine scheduling and the --debug
flag.  The result is also the same whether input arrives on stdin, as `-` or as a FILE argument and whether
output goes to stdout or to the -o file."

PARTIAL.  A Lean function is deterministic by construction, so the content of a proof here is that the MODEL IS
ENTITLED to be a function: every place where the Go code's behaviour can depend on something other than its
input is (1) enumerated from the type-checked source on every run (`sites_accounted`: ranges over maps,
channels and iterator functions, goroutines, channel sends, clock/random/environment reads, and the sort calls
that neutralise a map order), and (2) for each map-order site the modelled loop is shown to give the same result
for EVERY iteration order (any permutation of the map's entries).  What no model can carry - the Go scheduler,
cobra's and the OS's file handling, `--debug` logging - is observed by the `repeat` stream on the real binary
(repeated runs under different GOMAXPROCS, stdin / `-` / FILE, stdout / -o, with and without --debug).
-/
namespace Crd.Props.C12
open Crd Crd.Generated Crd.Props.C13 Crd.Props.C14

/-- site (regenerated spelling) and how it is accounted for -/
def expectedSites : List (String × String) :=
  [("chansend input/ast/iter_visitor.go IterVisitor.send", "one producer, one consumer, FIFO channel: document order (assumed of Go channels; repeat stream)"),
   ("collect op/circle.go CircleMember.Head slices.Collect(maps.Values(c.scales))", "unused by any command"),
   ("collect op/circle.go CircleMember.Keys slices.Collect(maps.Keys(c.scales))", "feeds a Set (membership only) or chain_order_irrelevant"),
   ("env op/circle.go CircleMember.Head maps.Values", "unused by any command"),
   ("env op/circle.go CircleMember.Keys maps.Keys", "feeds a Set (membership only) or chain_order_irrelevant"),
   ("env op/op.go Meta.MarshalYAML maps.Keys", "meta_marshal_order_irrelevant (the keys are sorted before use)"),
   ("go input/ast/iter_visitor.go IterVisitor.All", "single producer goroutine of the channel above"),
   ("mapcall cmd/info.go infoKeyCmdConv result.Keys().All", "listings_sorted"),
   ("mapcall op/circle.go KeyConversionChain.Convert m.Keys().All", "chain_order_irrelevant"),
   ("range-chan input/ast/iter_visitor.go IterVisitor.All s.nodeC", "FIFO consumer"),
   ("range-chan input/ast/iter_visitor.go IterVisitor.All s.nodeC", "drain on early exit"),
   ("range-func astconv/validate.go ASTTypeClassifier.Classify ast.NewIterVisitor().All()", "consumes the FIFO channel in document order"),
   ("range-func chord/attribute.go GenerateAttributes note.GenerateDegrees()", "iterator over nested integer/slice loops"),
   ("range-func cmd/info.go infoKeyCmdConv result.Keys().All()", "listings_sorted"),
   ("range-func cmd/write.go writeCmdEvent midix.NewReader().Events()", "iterator over the decoded tracks in file order"),
   ("range-func op/circle.go KeyConversionChain.Convert m.Keys().All()", "chain_order_irrelevant"),
   ("range-map chord/map.go Map.validate m.chords", "validation_order_irrelevant (only the wording of the joined diagnostic on stderr varies)"),
   ("range-map note/accidental.go NewAccidental accidentalStringMap", "accidental_order_irrelevant"),
   ("range-map note/degree.go Degree.Semitone degreeSemitoneMap", "semitone_order_irrelevant"),
   ("range-map op/circle.go CircleMember.String c.scales", "only in --debug log records on stderr"),
   ("range-map op/op.go Meta.MarshalYAML m", "meta_marshal_order_irrelevant (does any text begin with a line break?)"),
   ("range-map op/scale.go AllScales keySignatures", "listings_sorted"),
   ("range-map op/scale.go keySignatures keyStringSignatures", "key_signature_map_order_irrelevant"),
   ("range-map op/velocity.go GetDynamicSignStrings stringDynamicSignMap", "only in the --velocity usage text (not a data-producing command)"),
   ("range-map util/conv.go InverseMap d", "inverse_maps_order_irrelevant"),
   ("range-map util/set.go Set.All s", "callers: chain_order_irrelevant, listings_sorted"),
   ("sort cmd/info.go infoKeyCmdConv slices.Sort", "the sort listings_sorted relies on"),
   ("sort op/op.go Meta.MarshalYAML slices.Sorted", "the sort meta_marshal_order_irrelevant relies on"),
   ("sort op/scale.go AllScales slices.SortFunc", "the sort listings_sorted relies on")]

/-- **the list of order-sensitive sites regenerated from /repo is exactly the list accounted for here**: a new map
range, goroutine, channel, clock/random read, or a removed sort breaks this obligation -/
theorem sites_accounted : orderSites = expectedSites.map (·.1) := rfl

def adjQ (q : Quality) (k : Degree × Int) : Option Int :=
  match q, k.1.name with
  | .augmented, .major | .augmented, .perfect => some (k.2 + 1)
  | .diminished, .minor | .diminished, .perfect => some (k.2 - 1)
  | .daug, .major | .daug, .perfect => some (k.2 + 2)
  | .ddim, .minor | .ddim, .perfect => some (k.2 - 2)
  | _, _ => none

theorem adj_unique : ∀ q ∈ allQ, ∀ a ∈ degreeSemitoneTable, ∀ b ∈ degreeSemitoneTable,
    a.1.value = b.1.value → (adjQ q a).isSome = true → (adjQ q b).isSome = true → adjQ q a = adjQ q b := by decide +kernel

/-- `adjQ` is the body of the quality-adjustment loop -/
theorem adjustSemitone_eq (order : List (Degree × Int)) (d : Degree) :
    adjustSemitone order d = order.findSome? fun kv => if kv.1.value ≠ d.value then none else adjQ d.name kv := rfl

theorem adjust_order_irrelevant (order : List (Degree × Int)) (hp : order.Perm degreeSemitoneTable) (d : Degree) :
    adjustSemitone order d = adjustSemitone degreeSemitoneTable d := by
  rw [adjustSemitone_eq, adjustSemitone_eq]
  refine (findSome?_perm_of_agree hp.symm fun a ha b hb x y hx hy => ?_).symm
  split at hx
  · cases hx
  split at hy
  · cases hy
  rename_i h1 h2
  have := adj_unique d.name (mem_allQ _) a ha b hb ((Decidable.not_not.mp h1).trans (Decidable.not_not.mp h2).symm)
    (by rw [hx]; rfl) (by rw [hy]; rfl)
  rw [hx, hy] at this
  exact Option.some.inj this

/-- **`Degree.Semitone`**: the quality-adjustment loop ranges over a Go map; every iteration order gives the same
size, for every interval -/
theorem semitone_order_irrelevant (order : List (Degree × Int)) (hp : order.Perm degreeSemitoneTable) (d : Degree) :
    d.semitoneWith order = d.semitone := by
  unfold Degree.semitone Degree.semitoneWith simpleSemitone baseSemitone
  simp only [adjust_order_irrelevant order hp]

/-- `note.NewAccidental` with the map's iteration order as a parameter -/
def naccOfStringWith (order : List (NAcc × String × String)) (s : String) : NAcc :=
  match order.find? (fun p => p.2.1 = s || p.2.2 = s) with
  | some p => p.1
  | none => .unknown

theorem nacc_spellings_disjoint : ∀ a ∈ naccStringTable, ∀ b ∈ naccStringTable, a ≠ b →
    a.2.1 ≠ b.2.1 ∧ a.2.1 ≠ b.2.2 ∧ a.2.2 ≠ b.2.1 ∧ a.2.2 ≠ b.2.2 := by decide

/-- **`note.NewAccidental`**: no string is a spelling of two accidentals, so the map order is irrelevant -/
theorem accidental_order_irrelevant (order : List (NAcc × String × String)) (hp : order.Perm naccStringTable) (s : String) :
    naccOfStringWith order s = NAcc.ofString s := by
  unfold naccOfStringWith NAcc.ofString
  rw [← find?_perm_of_unique hp.symm]
  · generalize List.find? _ naccStringTable = r
    cases r <;> rfl
  · intro a ha b hb pa pb
    by_cases hab : a = b
    · exact hab
    · obtain ⟨h1, h2, h3, h4⟩ := nacc_spellings_disjoint a ha b hb hab
      simp only [Bool.or_eq_true, decide_eq_true_eq] at pa pb
      rcases pa with rfl | rfl <;> rcases pb with pb | pb <;> simp_all

/-- the tables `util.MustInverseMap` inverts have pairwise distinct values (otherwise crd panics at start-up) -/
theorem inverted_tables_injective :
    (nameStringTable.map (·.2)).Nodup ∧ (stringCoerceTable.map (·.2)).Nodup ∧ (accStringTable.map (·.2)).Nodup ∧
    (dynamicStrings.map (·.2)).Nodup := by decide

/-- **`util.InverseMap`**: the inverse look-up finds the same entry whatever order the map was walked in -/
theorem inverse_maps_order_irrelevant {α β} [DecidableEq β] (table order : List (α × β)) (hp : order.Perm table)
    (nd : (table.map (·.2)).Nodup) (x : β) : order.find? (fun p => p.2 = x) = table.find? (fun p => p.2 = x) := by
  apply find?_perm_of_unique hp
  intro a ha b hb pa pb
  exact eq_of_nodup_map _ ((hp.map (·.2)).symm.nodup nd) a ha b hb ((of_decide_eq_true pa).trans (of_decide_eq_true pb).symm)

/-- **`keySignatures`** (a map built by ranging over a map): the signature found for a key does not depend on the
order -/
theorem key_signature_map_order_irrelevant (order : List (Option Key × Int)) (hp : order.Perm keySignatureTable) (k : Key) :
    lookup (some k) order = signatureOf k := by
  unfold signatureOf
  exact lookup_perm_of_nodup hp ((hp.map (·.1)).symm.nodup signature_table_wf.1)

/-- **`KeyConversionChain.Convert`** walks a Set (a Go map) and returns at the first key that converts: any two
orders give the same member, for every supported key and every chain (from C14) -/
theorem chain_order_irrelevant (ord₁ ord₂ : Member → Member) (h₁ : OrdOK ord₁) (h₂ : OrdOK ord₂)
    (k : Key) (hk : k ∈ requiredKeys) (chain : List KConv) (hc : ∀ x ∈ chain, x ∈ moves) :
    chainConvert C ord₁ k chain = chainConvert C ord₂ k chain := spelling_independent ord₁ ord₂ h₁ h₂ k hk chain hc

/-- what `info key list` / `info key conv` print: names collected in map order, then sorted -/
def listing (order : List Key) : List String := (order.map Key.str).mergeSort (fun a b => decide (a ≤ b))

/-- **listings**: collected in any order, the sorted listing is the same -/
theorem listings_sorted (o₁ o₂ : List Key) (hp : o₁.Perm o₂) : listing o₁ = listing o₂ :=
  sorted_perm (hp.map Key.str)

/-- `Map.validate` with the order in which the chords map is walked -/
def validateWith (d : Dict) (order : List ChordDef) : Bool :=
  order.all fun c =>
    c.attributes.all (fun a => (d.attr a).isSome) &&
    (c.parent = "" || (d.chord c.parent).isSome) &&
    d.chainEnds ((d.chords.map (·.1)).eraseDups.length + 1) c

/-- **`Map.validate`**: whether a dictionary is accepted does not depend on the order its chords are checked in -/
theorem validation_order_irrelevant (d : Dict) (order : List ChordDef) (hp : order.Perm d.entries) :
    validateWith d order = d.validate := hp.all_eq

/-- **`Meta.MarshalYAML`** (added by the D21 fix): whether some text begins with a line break, and the sorted key list,
do not depend on the order the map is walked in -/
theorem meta_marshal_order_irrelevant (o₁ o₂ : List (String × String)) (hp : o₁.Perm o₂) :
    o₁.any (fun kv => kv.2.startsWith "\n") = o₂.any (fun kv => kv.2.startsWith "\n") ∧
    (o₁.map (·.1)).mergeSort (fun a b => decide (a ≤ b)) = (o₂.map (·.1)).mergeSort (fun a b => decide (a ≤ b)) :=
  ⟨hp.any_eq, sorted_perm (hp.map (·.1))⟩

/-! non-vacuity: orders that differ -/
example : (degreeSemitoneTable.reverse).Perm degreeSemitoneTable ∧ degreeSemitoneTable.reverse ≠ degreeSemitoneTable :=
  ⟨List.reverse_perm _, by decide⟩
example : (⟨4, .augmented⟩ : Degree).semitoneWith degreeSemitoneTable.reverse = some 6 := by decide
example : listing (supportedKeys.reverse) = listing supportedKeys := listings_sorted _ _ (List.reverse_perm _)

end Crd.Props.C12
