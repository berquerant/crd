import Crd.Lemmas.Piece

/-!
# C02 — write: onsets, lengths and rests follow the written durations, gapless

"Every instance occupies round(T × v) ticks, where T is the ticks-per-quarter declared in the file header and v
the exact sum of its duration fractions (either neighbour when exactly halfway): a chord's note-ons all fall at
the instance start and all its note-offs at its end, a rest emits no notes, and each instance starts exactly
where the previous one ended, the first at tick 0.  Where two events of one track share a tick, a chord's
release of a pitch precedes the next chord's strike of the same pitch."

The structural clauses are proved for an ARBITRARY tick function τ (so they do not depend on rounding) and any
track count; the rounding clause is in `Crd/Props/C02Float.lean`.
-/
namespace Crd.Props.C02
open Crd Crd.Generated Crd.Props.C06

/-- the first instance starts at tick 0 and each instance starts exactly where the previous one ended -/
theorem starts_gapless (τ : List Rat' → Nat) (is : List Instance) :
    startAt τ is 0 = 0 ∧ ∀ j (i : Instance), is[j]? = some i → startAt τ is (j + 1) = startAt τ is j + τ i.values := by
  refine ⟨by simp [startAt, totalTicks], ?_⟩
  intro j i hj
  have : is.take (j + 1) = is.take j ++ [i] := by
    rw [List.take_add_one, hj]; rfl
  simp [startAt, totalTicks, this, List.sum_append]

/-- the piece ends at the sum of all instance lengths (rests included, wherever they stand) -/
theorem total_is_sum (τ : List Rat' → Nat) (is : List Instance) : startAt τ is is.length = totalTicks τ is := by
  simp [startAt]

/-- **onsets and releases**: the whole timeline is, instance by instance: the instance's setting events at its
start, ALL its note-ons at its start, ALL its note-offs at its start + its length — for the keys `Key.Apply`
gives (C01) — and nothing else -/
theorem timeline_by_instance (τ : List Rat' → Nat) (d : Dict) (is : List Instance) :
    pieceLog τ d 0 true defaultKey defaultVelocity is =
      (List.range is.length).flatMap fun j => match is[j]? with
        | none => []
        | some i =>
          instSettings (j == 0) (startAt τ is j) i ++
            (instOns d (keyAt defaultKey is j) (dynAt defaultVelocity is j) (startAt τ is j) i ++
             instOffs d (keyAt defaultKey is j) (startAt τ is j + τ i.values) i) := by
  exact pieceLog_by_instance τ d is 0 true _ _ _ fun j i h => by simp [h, instLog]

/-- every note-on of an instance is stamped with the tick it is given, every note-off likewise, and both
lists strike/release the same keys in the same order with the same routing indices -/
theorem ons_offs_same_keys (d : Dict) (k : Key) (v : Dyn) (S E : Nat) (i : Instance) :
    (∀ e ∈ instOns d k v S i, e.1 = S) ∧ (∀ e ∈ instOffs d k E i, e.1 = E) ∧
    (instOns d k v S i).map (fun e => (e.2.1, match e.2.2 with | .noteOn c x _ => (c, x) | _ => (0, 0))) =
      (instOffs d k E i).map (fun e => (e.2.1, match e.2.2 with | .noteOff c x => (c, x) | _ => (0, 0))) := by
  refine ⟨fun e he => ?_, fun e he => ?_, ?_⟩
  · obtain ⟨n, x, rfl⟩ := mem_instOns he; rfl
  · obtain ⟨n, x, rfl⟩ := mem_instOffs he; rfl
  · simp only [instOns_eq, instOffs_eq, fixedEvs_eq_map, List.map_map]; rfl

/-- a rest emits no notes -/
theorem rest_is_silent (d : Dict) (k : Key) (v : Dyn) (S E : Nat) (i : Instance) (h : i.chord = none) :
    instOns d k v S i = [] ∧ instOffs d k E i = [] := by simp [instOns_eq, instOffs_eq, chordKeys_rest h, fixedEvs]

/-- **release before strike**: wherever two instances `a`, `b` follow each other in a piece, the log contains `a`'s
note-offs and then `b`'s settings and note-ons as adjacent blocks, all stamped with the one tick `S + τ a.values` —
so what `a` releases precedes what `b` strikes although the ticks are equal, and, a track's timeline being a `filter`
of the log (C06 `every_track_ends_at_total`), so it does in every track.  The statement asserts only that such a
split exists, for some start tick `S` of `a` and some keys and dynamic; that these are the ones in force is
`timeline_by_instance`.  Where neither instance sounds both blocks are empty and nothing is said. -/
theorem release_before_strike (τ : List Rat' → Nat) (d : Dict) (pre : List Instance) (a b : Instance) (post : List Instance) :
    ∀ (T : Nat) (first : Bool) (k0 : Key) (v0 : Dyn), ∃ (X Y : List LogE) (S : Nat) (ka kb : Key) (vb : Dyn),
      pieceLog τ d T first k0 v0 (pre ++ a :: b :: post) =
        X ++ instOffs d ka (S + τ a.values) a ++ (instSettings false (S + τ a.values) b ++ instOns d kb vb (S + τ a.values) b) ++ Y := by
  induction pre with
  | nil =>
    intro T first k0 v0
    refine ⟨instSettings first T a ++ instOns d (a.key.getD k0) (a.velocity.getD v0) T a,
      instOffs d (b.key.getD (a.key.getD k0)) (T + τ a.values + τ b.values) b ++
        pieceLog τ d (T + τ a.values + τ b.values) false (b.key.getD (a.key.getD k0)) (b.velocity.getD (a.velocity.getD v0)) post,
      T, a.key.getD k0, b.key.getD (a.key.getD k0), b.velocity.getD (a.velocity.getD v0), ?_⟩
    simp only [List.nil_append, pieceLog_cons, List.append_assoc]
  | cons p pre ih =>
    intro T first k0 v0
    obtain ⟨X, Y, S, ka, kb, vb, h⟩ := ih (T + τ p.values) false (p.key.getD k0) (p.velocity.getD v0)
    refine ⟨(instSettings first T p ++ (instOns d (p.key.getD k0) (p.velocity.getD v0) T p ++
      instOffs d (p.key.getD k0) (T + τ p.values) p)) ++ X, Y, S, ka, kb, vb, ?_⟩
    rw [List.cons_append, pieceLog_cons, h]
    simp only [List.append_assoc]

/-- filtering (the share of a track) and stripping preserve that order -/
theorem share_preserves_order (p : LogE → Bool) (A B C D : List LogE) :
    ((A ++ B ++ C ++ D).filter p).map stripT = (A.filter p).map stripT ++ (B.filter p).map stripT ++ (C.filter p).map stripT ++ (D.filter p).map stripT := by
  simp [List.filter_append, List.map_append]

/-! non-vacuity: fractional and multiple durations, leading / consecutive / trailing rests -/
def exDoc : List Instance :=
  [{ values := [⟨1, 3⟩] }, { chord := some ⟨⟨1, .perfect⟩, "", none⟩, values := [⟨1, 2⟩, ⟨1, 4⟩] },
   { values := [⟨1, 1⟩] }, { values := [⟨2, 3⟩] }, { chord := some ⟨⟨5, .perfect⟩, "7", none⟩, values := [⟨5, 7⟩] }, { values := [⟨1, 1⟩] }]
example : (List.range 7).map (startAt goTicks exDoc) = [0, 320, 1040, 2000, 2640, 3326, 4286] := by decide

end Crd.Props.C02
