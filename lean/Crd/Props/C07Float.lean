import Crd.Float.Ticks
import Crd.Props.C07

/-!
# C07, tempo value — "microseconds-per-quarter = 60,000,000 / bpm" for EVERY tempo

From the error analysis of the soft-float model: three roundings, 60,000,000 is far below 2^52 / 12, and where the
quotient is exactly halfway the division is exact (`Crd.tempo_exact`).
-/
namespace Crd.Props.C07
open Crd

/-- the tempo event carries the nearest integer of 60,000,000 / bpm, for every bpm ≥ 1.  The statement allows the lower
neighbour at an exact half; by `Crd.tempo_exact` that case never occurs (a half is computed exactly and rounded up) -/
theorem tempo_value (bpm : Nat) (hb : 0 < bpm) :
    tempoMicros bpm = (2 * 60000000 + bpm) / (2 * bpm) ∨
      ((2 * 60000000 + bpm) % (2 * bpm) = 0 ∧ tempoMicros bpm + 1 = (2 * 60000000 + bpm) / (2 * bpm)) :=
  .inl (tempo_exact bpm)

/-- the same for the tempi musicians write (every integer from 4 to 1000 bpm): a special case of `Crd.tempo_exact` -/
theorem tempo_value_partial : ∀ bpm ∈ List.range 1001, 4 ≤ bpm → tempoMicros bpm = (2 * 60000000 + bpm) / (2 * bpm) :=
  fun bpm _ _ => tempo_exact bpm

/-- from 4 bpm upwards the value fits the three bytes of the event (below that it cannot: the known finding D12) -/
theorem tempo_fits (bpm : Nat) (hb : 4 ≤ bpm) : tempoMicros bpm < 2 ^ 24 := by
  rw [tempo_exact, Nat.div_lt_iff_lt_mul (by omega)]
  omega

/-- so for every bpm ≥ 4 the event is `FF 51 03` followed by that value in three big-endian bytes -/
theorem tempo_event (bpm : Nat) (hb : 4 ≤ bpm) :
    (Ev.tempo bpm).bytes = [0xFF, 0x51, 3] ++ be 3 (tempoMicros bpm) := tempo_payload_shape bpm (tempo_fits bpm hb)

example : tempoMicros 7 = 8571429 := tempo_exact 7

end Crd.Props.C07
