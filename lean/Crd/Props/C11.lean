import Crd.Lemmas.LexTrivia
import Crd.Props.C03

/-!
# C11 — spelling variants of the same chord text give byte-identical results

"Inserting or removing spaces, tabs, newlines and `;` comments between tokens, writing `_` before a symbol that
does not need it, writing durations with leading zeros, and writing accidentals as # / b or as the Unicode signs
the lexer equally accepts, never changes what `text conv` prints.  An accidental that is accepted is honoured: no
accepted spelling is read as a different note."

Everything after the lexer is a function of the token list (and, after the parser, of the tree), so "same tokens"
/ "same tree" / "same converted chord" imply byte-identical output.
-/
namespace Crd.Props.C11
open Crd Crd.Generated

/-- **trivia before any token** (in particular at the start of the text): white space in every lexer state;
white space and newline-terminated `;` comments outside `{…}` and not directly after `_` -/
theorem trivia_before_token (es em : Bool) (w : List Char) (h : TriviaIn es em w) (inp : List Char) (acc : List Tok) :
    lexFrom es em (w ++ inp) acc = lexFrom es em inp acc := lexFrom_trivia es em w h inp acc

/-- **trivia after any token that is not a key/value run**: the token, the state it leaves and everything that
follows are unchanged.  Read left to right this is insertion, right to left removal.  (Inside `{…}` white space
after a key or value belongs to it — the documented key=value mode — so METADATA runs are excluded; before them
white space is trivia by the previous theorem.) -/
theorem trivia_after_token (es em : Bool) (x : List Char) (t : Tok) (es' em' : Bool) (r : List Char)
    (h : lexStep true es em x = .emit t es' em' r) (hk : t.k ≠ .METADATA) (w : List Char) (hw : TriviaIn es' em' w)
    (acc : List Tok) :
    ∃ consumed, x = consumed ++ r ∧ lexFrom es em (consumed ++ (w ++ r)) acc = lexFrom es em x acc :=
  Crd.trivia_after_token es em x t es' em' r h hk w hw acc

/-- at the very start of a text -/
theorem trivia_at_start (w s : List Char) (h : Trivia w) : lexChars (w ++ s) = lexChars s := Crd.trivia_at_start w s h

/-- trailing white space and trailing comments, each closed by its newline, are ignored too: the text ends there
with the tokens read so far.  (A last comment that ends with the text instead of a newline is not `Trivia`: it is
the `Gap.lastComment` of C04 `text_is_tokens_and_trivia`.) -/
theorem trivia_at_end (w : List Char) (h : Trivia w) (acc : List Tok) : lexFrom false false w acc = .ok acc := by
  have := lexFrom_trivia false false w (by simpa [TriviaIn] using h) [] acc
  simp only [List.append_nil] at this
  rw [this, lexFrom_step]
  rfl

/-- `_` before a symbol is optional: the parser builds the same symbol node with and without it -/
theorem underscore_optional (u s : Tok) (r : List Tok) (hu : u.k = .UNDERSCORE) (hs : s.k = .SYMBOL) :
    pSymbol (u :: s :: r) = pSymbol (s :: r) := by
  simp [pSymbol, hu, hs]

/-- … hence the same chord: the whole item parses identically (same tree, same remaining input) -/
theorem underscore_optional_item (pre : List Tok) (u s : Tok) (r : List Tok) (d : DegreeN)
    (hu : u.k = .UNDERSCORE) (hs : s.k = .SYMBOL)
    (h1 : pDegree (pre ++ u :: s :: r) = some (d, u :: s :: r)) (h2 : pDegree (pre ++ s :: r) = some (d, s :: r))
    (hne : ∀ t rest, pre = t :: rest → t.k ≠ .REST) (hpre : pre ≠ []) :
    pItem (pre ++ u :: s :: r) = pItem (pre ++ s :: r) := by
  obtain ⟨t, rest, rfl⟩ : ∃ t rest, pre = t :: rest := by cases pre <;> simp_all
  have hnr := hne t rest rfl
  simp only [List.cons_append] at h1 h2 ⊢
  simp only [pItem, hnr, if_false, h1, h2, underscore_optional u s r hu hs]

/-- leading zeros do not change a number -/
theorem leading_zero (ds : List Char) (hne : ds ≠ []) : parseUint ('0' :: ds) = parseUint ds := by
  have h0 : isDigit '0' = true := by decide
  cases ds with
  | nil => exact absurd rfl hne
  | cons d t => simp [parseUint, digitsVal, h0]

/-- … hence durations written with leading zeros convert to the same fraction -/
theorem duration_leading_zeros (k : TK) (ns : List Char) (hn : ns ≠ []) (den : Option Tok) :
    convValue ⟨⟨k, '0' :: ns⟩, den⟩ = convValue ⟨⟨k, ns⟩, den⟩ ∧
    (∀ (num : Tok) (k' : TK) (ds : List Char), ds ≠ [] →
      convValue ⟨num, some ⟨k', '0' :: ds⟩⟩ = convValue ⟨num, some ⟨k', ds⟩⟩) := by
  constructor
  · simp [convValue, leading_zero ns hn]
  · intro num k' ds hd
    cases ds with
    | nil => exact absurd rfl hd
    | cons d t => simp [convValue, leading_zero (d :: t) hd]

/-- the Unicode sharp and flat signs are lexed as the same token kinds as `#` and `b` … -/
theorem unicode_signs_lex :
    (singleTok '♯').map (·.1) = some .SHARP ∧ (singleTok '#').map (·.1) = some .SHARP ∧
    (singleTok '♭').map (·.1) = some .FLAT ∧ (singleTok 'b').map (·.1) = some .FLAT := by decide

/-- … and are read as the same accidental by both converters (after the D7 fix) -/
theorem unicode_signs_mean : Acc.ofString "♯" = .sharp ∧ Acc.ofString "#" = .sharp ∧
    Acc.ofString "♭" = .flat ∧ Acc.ofString "b" = .flat ∧
    (Acc.ofString "♯").str = "#" ∧ (Acc.ofString "♭").str = "b" := by decide

/-- **every sign the lexer accepts as a sharp or a flat is read as that accidental**: for each entry of the lexer's
token table (regenerated from the source on every run) whose kind is SHARP or FLAT, the converters' reading of that
very rune is sharp, respectively flat — no accepted sign falls through to "natural" -/
theorem every_accepted_sign_known : ∀ e ∈ Generated.singleRuneTokens,
    (e.2.1 = TK.SHARP → Acc.ofString (String.singleton e.1) = .sharp) ∧
    (e.2.1 = TK.FLAT → Acc.ofString (String.singleton e.1) = .flat) := by decide

/-- two accidental tokens that denote the same accidental give the same converted chord, in both modes, in
every key — so `C♯` and `C#`, `3♭` and `3b` convert identically -/
theorem same_accidental_same_chord (mode : Mode) (s : Scale) (h : Tok) (a a' : Tok) (sym : Option Tok) (base : Option DegreeN)
    (heq : Acc.ofString a.str = Acc.ofString a'.str) :
    convChord mode s ⟨h, some a⟩ sym base = convChord mode s ⟨h, some a'⟩ sym base := by
  cases mode <;> simp [convChord, syllableDegrees, newScaleNote, convDegreeText, heq]

/-- **an accepted accidental is honoured**: whenever the syllable converter accepts a root written with an
accidental, the emitted degree measures exactly the pitch of the written note (letter AND accidental) above the
tonic — never the natural letter, never another note (C03 `conv_sound`) -/
theorem accepted_accidental_honoured (k : Key) (s : Scale) (hs : newScale k = some s) (root : DegreeN)
    (d : Degree) (b : Option Degree) (h : syllableDegrees s root none = .ok (d, b)) :
    ∃ rn, newScaleNote root = .ok rn ∧
      Spec.specSize d.value d.name = some (Crd.Props.C03.pitchDist ⟨k.name, k.acc⟩ rn) ∧
      (∀ a, root.acc = some a → rn.acc = Acc.ofString a.str) := by
  obtain ⟨tonic, rn, _, ht, hrn, _, hsize, _⟩ := Crd.Props.C03.conv_sound k s hs root none d b h
  subst ht
  refine ⟨rn, hrn, hsize, ?_⟩
  intro a ha
  unfold newScaleNote at hrn
  split at hrn
  · cases hrn
  · cases hrn; simp [ha]

example : lexChars "C#m7 [ 1 ] ;x\n".toList = lexChars "C#m7[1]".toList := by decide +kernel
example : Trivia " ;c\n\t".toList := by
  refine Trivia.space ' ' _ (by decide) ?_
  exact Trivia.comment ['c'] _ (by decide) (Trivia.space '\t' _ (by decide) Trivia.nil)
example : (cmdTextConvChars .syllable "D" "C♯_m7[01/004]".toList).toOption.map (·.map (·.chord)) =
    (cmdTextConvChars .syllable "D" "C#m7[1/4]".toList).toOption.map (·.map (·.chord)) := by decide +kernel

end Crd.Props.C11
