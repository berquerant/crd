import Crd.Lemmas.Progression
import Crd.Lemmas.Transpose

/-!
# C05 — one progression, one meaning: degrees vs note names in any key, with key changes

"A progression converts to the same instances whether it is written with degree numbers or with note names in any
supported key, including pieces that change key mid-way with {key=...} (the change applies from the chord that
carries it onwards).  Playing the same instances in two keys produces the same MIDI events with every pitch
shifted by the distance between the tonics and nothing else changed."
-/
namespace Crd.Props.C05
open Crd Crd.Spec

/-- **degrees vs note names**: for every abstract progression — roots on degrees 1..7 with ♭/♮/♯, any symbol,
optional bass (an interval above the root), rests, any durations, any metadata with key changes at arbitrary
positions — and every start key: whenever the progression can be spelled with note names at all (each note
needs at most one accidental), `text conv syllable` of that spelling yields exactly the instance list that
`text conv degree` yields for the degree spelling (same chords, basses, durations, settings, texts — and the
same failure if a duration or setting is malformed) -/
theorem degree_vs_syllable (p : List AItem) (hp : ∀ a ∈ p, a.WF) (s : Scale) (hs : IsScale s) (items : List Item)
    (h : sylItems s p = some items) (sd : Scale) :
    convItems .syllable s items = convItems .degree sd (p.map degItem) :=
  Crd.degree_vs_syllable p hp s hs items h sd

/-- the key change applies from the chord that carries it: the scale used to read an item is the one its own
`key=` names (if any), and it stays in force afterwards -/
theorem key_change_applies_from_carrier (s : Scale) (a : AItem) (s' : Scale) (h : keyAfter s a = some s') (i : Instance)
    (hm : modifyMeta { mta := convMeta a.mta } (convMeta a.mta) = .ok i) :
    (i.key = none → s' = s) ∧ (∀ k, i.key = some k → newScale k = some s') := by
  unfold keyAfter at h
  simp only [hm] at h
  constructor
  · intro hk; simp [hk] at h; exact h.symm
  · intro k hk; simp [hk] at h; exact h

/-- the spellable notes are exactly those needing at most one accidental: for every reference note and interval,
`spell` fails only if the required accidental is a double sharp or double flat -/
theorem spell_fails_only_on_double_accidentals : ∀ ref ∈ Crd.Props.C03.notes21, ∀ a ∈ aNotes,
    (spell ref a).isNone = true →
      ∃ size : Int, (degOf a).bind (fun d => specSize d.value d.name) = some size ∧
        (2 ≤ size - (naturalPitch (letterUp ref.name (a.n - 1)) - naturalPitch ref.name).emod 12 + accShift ref.acc ∨
         size - (naturalPitch (letterUp ref.name (a.n - 1)) - naturalPitch ref.name).emod 12 + accShift ref.acc ≤ -2) := by
  intro ref _ a ha h
  obtain ⟨size, hs⟩ := Option.isSome_iff_exists.mp (degOf_size a ha)
  refine ⟨size, hs, accOfInt_none ?_⟩
  cases hd : degOf a with
  | none => simp [hd] at hs
  | some d =>
    rw [hd] at hs
    simpa [spell, hd, show specSize d.value d.name = some size from hs] using h

/-- **transposition at chord level**: in key k₂ every key of a chord is the key in k₁ plus the distance between
the tonics -/
theorem chord_transposes (d : Dict) (k1 k2 : Key) (c : ChordIn) (ks1 : List Nat) (t1 t2 : Int)
    (h1 : applyChord d k1 c = .ok ks1) (hk1 : k1.semitone? = some t1) (hk2 : k2.semitone? = some t2) :
    applyChord d k2 c = .ok (ks1.map fun (x : Nat) => u8 ((x : Int) + (t2 - t1))) :=
  applyChord_shift d k1 k2 c ks1 t1 t2 h1 hk1 hk2

/-- **transposition of a piece**: the timeline of instances without key changes, played from key k₂, is the
timeline played from k₁ with every note-on/note-off key shifted by tonic(k₂) − tonic(k₁): same ticks, order,
routing, velocities and setting events; nothing else changed -/
theorem piece_transposes (τ : List Rat' → Nat) (d : Dict) (k1 k2 : Key) (t1 t2 : Int)
    (hk1 : k1.semitone? = some t1) (hk2 : k2.semitone? = some t2) (is : List Instance) (hkf : KeyFree is)
    (T : Nat) (v0 : Dyn) (hok : ∀ i ∈ is, ∀ c, i.chord = some c → ∃ ks, applyChord d k1 c = .ok ks) :
    pieceLog τ d T false k2 v0 is = (pieceLog τ d T false k1 v0 is).map (shiftLog (t2 - t1)) :=
  pieceLog_transpose τ d k1 k2 t1 t2 hk1 hk2 is hkf T v0 hok

/-- inside the MIDI range the byte arithmetic is plain addition -/
theorem shift_in_range (x : Nat) (δ : Int) (h : 0 ≤ (x : Int) + δ ∧ (x : Int) + δ ≤ 127) : ((u8 ((x : Int) + δ) : Nat) : Int) = x + δ := by
  rw [u8_cast, emod_eq]; omega

/-! non-vacuity: II–V–I with a key change on the second chord, spelled in E♭ -/
def exProg : List AItem :=
  [.chord ⟨2, 0⟩ (some ⟨.SYMBOL, "m7".toList⟩) none [⟨⟨.NUMBER, ['1']⟩, none⟩] none,
   .chord ⟨5, 0⟩ (some ⟨.SYMBOL, ['7']⟩) (some ⟨3, -1⟩) [⟨⟨.NUMBER, ['1']⟩, none⟩]
      (some [⟨⟨.METADATA, "key".toList⟩, ⟨.METADATA, "F#m".toList⟩⟩]),
   .chord ⟨7, -1⟩ none none [⟨⟨.NUMBER, ['2']⟩, none⟩] none]
example : ((newScale ⟨.E, false, .flat⟩).bind fun s => (sylItems s exProg).map fun its => its.map fun
    | .chord d _ b _ _ => (String.ofList (d.head.v ++ (d.acc.map (·.v)).getD []), b.map fun x => String.ofList (x.head.v ++ (x.acc.map (·.v)).getD []))
    | .rest _ _ => ("R", none)) =
    some [("F", none), ("C#", some "E"), ("E", none)] := by decide +kernel

end Crd.Props.C05
