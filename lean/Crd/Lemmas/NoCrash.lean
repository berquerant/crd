import Crd.Lemmas.ConvValid
import Crd.Lemmas.Play
import Crd.Lemmas.Prepare
import Crd.Lemmas.Lex

/-!
# No command model ever reaches a `panic` or `hang` outcome (C09, model level)
-/
namespace Crd
open Generated

theorem modifyMeta_safe (i : Instance) (m : Option (List (String × String))) : Safe (modifyMeta i m) := by
  cases m with
  | none => exact safe_ok _
  | some mm =>
    refine safe_bind (safe_bind (safe_bind ?_ fun a _ => ?_) fun a _ => ?_) fun a _ => ?_
    · rw [setBPM_eq]; exact setFrom_safe decodeBPM_safe
    · rw [setVelocity_eq]; exact setFrom_safe decodeDyn_safe
    · rw [setMeter_eq]; exact setFrom_safe decodeRat_safe
    · rw [setKey_eq]; exact setFrom_safe decodeKey_safe

theorem convValue_safe (v : ValueN) : Safe (convValue v) := by
  unfold convValue
  split
  · exact safe_err rfl
  dsimp only
  split
  · rename_i e he
    split at he
    · cases he
    · split at he
      · cases he
      · split at he <;> cases he
        exact safe_err rfl
  · split
    · exact safe_ok _
    · exact safe_err rfl

theorem getTendency_safe (s : Scale) (n : SNote) : Safe (getTendency s n) := by
  unfold getTendency
  split
  · exact safe_err rfl
  · split
    · exact safe_err rfl
    · exact safe_ok _

theorem newScaleNote_safe (d : DegreeN) : Safe (newScaleNote d) := by
  unfold newScaleNote
  split
  · exact safe_err rfl
  · exact safe_ok _

/-- between two of the 21 written notes the interval search never reaches its panic -/
theorem getDegree_safe (a b : SNote) (ha : a ∈ Crd.Props.C03.notes21) (hb : b ∈ Crd.Props.C03.notes21) (o : Bool) :
    Safe (liftGetDeg (a.getDegree b o)) := by
  cases hg : a.getDegree b o with
  | panic => exact absurd hg (Crd.Props.C03.getDegree_no_panic ha hb o)
  | invalid => exact safe_err rfl
  | ok d => exact safe_ok _

theorem syllableDegrees_safe (s : Scale) (hs : IsScale s) (root : DegreeN) (base : Option DegreeN) :
    Safe (syllableDegrees s root base) := by
  obtain ⟨t, ht, htm⟩ := scale_tonic_mem s hs
  unfold syllableDegrees
  refine safe_bind (newScaleNote_safe root) fun rn hrn => ?_
  have hrm := Crd.Props.C03.newScaleNote_mem root rn hrn
  refine safe_bind (getTendency_safe s rn) fun tt _ => ?_
  rw [ht]
  refine safe_bind (safe_ok t) fun _ e => ?_
  cases e
  refine safe_bind (getDegree_safe t rn htm hrm _) fun deg _ => ?_
  cases base with
  | none => exact safe_ok _
  | some b =>
    refine safe_bind (newScaleNote_safe b) fun bn hbn => ?_
    refine safe_bind (getTendency_safe s bn) fun bt _ => ?_
    exact safe_bind (getDegree_safe rn bn hrm (Crd.Props.C03.newScaleNote_mem b bn hbn) _) fun _ _ => safe_ok _

theorem convDegreeText_safe (d : DegreeN) : Safe (convDegreeText d) := by
  unfold convDegreeText
  dsimp only
  split
  · exact safe_ok _
  · exact safe_err rfl

theorem convChord_safe (mode : Mode) (s : Scale) (hs : mode = .syllable → IsScale s) (root : DegreeN) (sym : Option Tok)
    (base : Option DegreeN) : Safe (convChord mode s root sym base) := by
  cases mode with
  | syllable => exact safe_bind (syllableDegrees_safe s (hs rfl) root base) fun _ _ => safe_ok _
  | degree =>
    refine safe_bind (convDegreeText_safe root) fun _ _ => ?_
    cases base with
    | none => exact safe_ok _
    | some b => exact safe_bind (convDegreeText_safe b) fun _ _ => safe_ok _

theorem changeScale_safe (mode : Mode) (s : Scale) (i : Instance) : Safe (changeScale mode s i) := by
  unfold changeScale
  split
  · split
    · exact safe_ok _
    · exact safe_err rfl
  · exact safe_ok _

theorem convItem_safe (mode : Mode) (s : Scale) (hs : mode = .syllable → IsScale s) (it : Item) : Safe (convItem mode s it) := by
  unfold convItem
  refine safe_bind (modifyMeta_safe _ _) fun i1 _ => safe_bind (changeScale_safe mode s i1) fun s2 hs2 => ?_
  refine safe_bind (safe_mapM convValue_safe _) fun vs _ => ?_
  cases it with
  | rest _ _ => exact safe_ok _
  | chord d sym b _ _ => exact safe_bind (convChord_safe mode s2 (changeScale_isScale mode s hs i1 s2 hs2) d sym b) fun _ _ => safe_ok _

theorem convItems_safe (mode : Mode) : ∀ (items : List Item) (s : Scale), (mode = .syllable → IsScale s) → Safe (convItems mode s items)
  | [], _, _ => safe_ok _
  | it :: rest, s, hs => by
    unfold convItems
    refine safe_bind (convItem_safe mode s hs it) fun (i, s') hc => ?_
    exact safe_bind (convItems_safe mode rest s' (convItem_valid mode s hs it i s' hc).2) fun _ _ => safe_ok _

theorem classify_safe (t : List Item) : Safe (classify t) := fun e h => by rw [classify_go_error h]; rfl

theorem parseTextChars_safe (input : List Char) : Safe (parseTextChars input) :=
  fun _ he => parseTextChars_error he ▸ rfl

theorem scaleOfFlag_safe (key : String) : Safe (scaleOfFlag key) := by
  unfold scaleOfFlag
  dsimp only
  split
  · exact safe_err rfl
  · split
    · exact safe_ok _
    · exact safe_err rfl

/-- **`crd text conv` (both notations, any --key, ANY input text) never crashes and never hangs** -/
theorem textConv_safe (mode : Mode) (key : String) (input : List Char) : Safe (cmdTextConvChars mode key input) := by
  unfold cmdTextConvChars
  have tail : ∀ s, (mode = .syllable → IsScale s) →
      Safe (parseTextChars input >>= fun t => classify t >>= fun _ => convItems mode s t) := fun s hs =>
    safe_bind (parseTextChars_safe input) fun t _ => safe_bind (classify_safe t) fun _ _ => convItems_safe mode t s hs
  cases mode with
  | syllable => exact safe_bind (scaleOfFlag_safe key) fun s hs => tail s fun _ => scaleOfFlag_isScale hs
  | degree => exact safe_bind (safe_ok _) fun s _ => tail s (by intro h; cases h)

theorem supported_facts {k : Key} (hk : k ∈ supportedKeys) : k.semitone?.isSome = true ∧ (keySigCall k).isSome = true :=
  ⟨supported_semitone hk, by rw [keySigCall, Option.isSome_map]; exact newScale_isSome_iff.mpr hk⟩

theorem applyChord_safe (d : Dict) (k : Key) (c : ChordIn) (hk : k.semitone?.isSome = true) :
    ∀ e, applyChord d k c = .err e → e.isCrash = false := by
  -- the steps of `Apply` in order; the only crash is the key without a tonic, which `hk` excludes
  intro e h
  unfold applyChord at h
  split at h
  · cases h; rfl
  split at h
  · cases h; rfl
  split at h
  · rename_i hks; simp [hks] at hk
  split at h
  · cases h; rfl
  split at h <;> cases h
  rfl

theorem soundCall_safe (d : Dict) (k : Key) (v : Dyn) (i : Instance) (hk : k.semitone?.isSome = true) :
    Safe (soundCall d k v i) := by
  unfold soundCall
  cases i.chord with
  | none => exact safe_ok _
  | some c =>
    dsimp only
    cases ha : applyChord d k c with
    | err e => exact safe_err (applyChord_safe d k c hk e ha)
    | ok keys => exact safe_ok _

theorem specLoop_safe (d : Dict) : ∀ (is : List Instance) (first : Bool) (k0 : Key) (v0 : Dyn),
    k0 ∈ supportedKeys → (first = true → k0 = defaultKey) → Safe (specLoop d first k0 v0 is)
  | [], _, _, _, _, _ => safe_ok _
  | i :: is, first, k0, v0, hk0, hf => by
    rw [specLoop_cons]
    split
    · exact safe_err rfl
    split
    · exact safe_err rfl
    rename_i hns
    -- the key in force is supported: the instance's own has a scale, the one before is supported
    have hk : i.key.getD k0 ∈ supportedKeys := by
      cases hik : i.key with
      | none => simpa using hk0
      | some k' => exact newScale_isSome_iff.mp (keyHasNoScale_eq_false.mp (by simpa using hns) k' hik)
    cases hsc : settingsCalls first i with
    | none => have := settingsCalls_isSome hf (supported_facts hk).2; simp [hsc] at this
    | some cs =>
      exact safe_bind (soundCall_safe d _ _ i (supported_facts hk).1) fun _ _ =>
        safe_map (specLoop_safe d is false _ _ hk (fun h => nomatch h))

theorem playWrite_safe (d : Dict) (is : List Instance) : Safe (playWrite d is) := by
  rw [playWrite_eq_spec]
  split
  · exact safe_err rfl
  · exact specLoop_safe d is true defaultKey defaultVelocity (by decide) (fun _ => rfl)

theorem decodeChord_safe (c : RawChord) : Safe (decodeChord c) := by
  unfold decodeChord
  refine safe_bind ?_ fun _ _ => safe_bind (safe_optM decodeDegree_safe) fun _ _ => safe_ok _
  cases c.degree with
  | none => exact safe_ok _
  | some s => exact decodeDegree_safe s

theorem decodeInstance_safe (r : RawInstance) : Safe (decodeInstance r) := by
  unfold decodeInstance
  exact safe_bind (safe_optM decodeChord_safe) fun _ _ => safe_bind (safe_mapM decodeRat_safe _) fun _ _ =>
    safe_bind (safe_optM decodeBPM_safe) fun _ _ => safe_bind (safe_optM decodeDyn_safe) fun _ _ =>
    safe_bind (safe_optM decodeRat_safe) fun _ _ => safe_bind (safe_optM decodeKey_safe) fun _ _ => safe_ok _

theorem loadAttrs_safe (rs : List RawAttr) : Safe (loadAttrs rs) := by
  refine safe_mapM (fun r => ?_) rs
  split
  · exact safe_ok _
  · exact safe_bind (decodeDegree_safe _) fun _ _ => safe_ok _

theorem cmdWriteTracks_safe (f : WriteFlags) (is : List Instance) : Safe (cmdWriteTracks f is) := by
  unfold cmdWriteTracks
  refine safe_bind (prepareWrite_safe f is) fun (d, n, is') _ => safe_bind (playWrite_safe d is') fun calls _ => ?_
  exact safe_guard rfl (safe_ok _)

/-- **`crd write` never crashes and never hangs**, for ANY instances document, attribute file and flags -/
theorem cmdWrite_safe (f : WriteFlags) (attrs : List RawAttr) (rs : List RawInstance) : Safe (cmdWrite f attrs rs) := by
  unfold cmdWrite
  refine safe_bind (safe_mapM decodeInstance_safe rs) fun is _ => safe_bind (loadAttrs_safe attrs) fun as _ =>
    safe_bind (cmdWriteTracks_safe _ is) fun ts _ => ?_
  split
  · exact safe_ok _
  · exact safe_err rfl

/-- **`crd write conv` never crashes and never hangs** -/
theorem cmdWriteConv_safe (f : WriteFlags) (attrs : List RawAttr) (cs : List String) (rs : List RawInstance) :
    Safe (cmdWriteConv f attrs cs rs) := by
  unfold cmdWriteConv
  split
  · exact safe_err rfl
  refine safe_bind (safe_mapM decodeInstance_safe rs) fun is _ => ?_
  split
  · exact safe_err rfl
  exact safe_bind (loadAttrs_safe attrs) fun as _ => safe_bind (prepareWrite_safe _ _) fun _ _ => safe_ok _

end Crd
