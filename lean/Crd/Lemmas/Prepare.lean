import Crd.Lemmas.Safe

/-!
# `overrideFromFlags`, `prepareWrite` and the `write` commands: what they return; the first two never crash
-/
namespace Crd

/-- the flag values `overrideFromFlags` accepts -/
structure WriteFlags.OK (f : WriteFlags) : Prop where
  velocity : f.velocity = "" ∨ Dyn.ofString f.velocity ≠ .unknown
  meter : f.meter = "" ∨ ∃ r, parseRat f.meter.toList = some r ∧ r.valid = true
  key : f.key = "" ∨ (parseKey f.key.toList).isSome = true

theorem WriteFlags.ok_iff {f : WriteFlags} : f.OK ↔ (f.velocity = "" ∨ Dyn.ofString f.velocity ≠ .unknown) ∧
    (f.meter = "" ∨ ∃ r, parseRat f.meter.toList = some r ∧ r.valid = true) ∧
    (f.key = "" ∨ (parseKey f.key.toList).isSome = true) :=
  ⟨fun h => ⟨h.1, h.2, h.3⟩, fun ⟨a, b, c⟩ => ⟨a, b, c⟩⟩

/-- the instance `overrideFromFlags` returns: each set flag replaces that setting, nothing else changes -/
def overridden (f : WriteFlags) (i : Instance) : Instance :=
  { i with
    bpm := if f.bpm = 0 then i.bpm else some f.bpm
    velocity := if f.velocity = "" then i.velocity else some (Dyn.ofString f.velocity)
    meter := if f.meter = "" then i.meter else parseRat f.meter.toList
    key := if f.key = "" then i.key else parseKey f.key.toList }

/-- The one place where the `do` block of `overrideFromFlags` is taken apart: `repeat' split` leaves one goal per path
through the three optional flags, and on each path `simp_all` has only to match the parse results met on it with the
disjuncts of `WriteFlags.OK` and the fields of `overridden`. -/
theorem overrideFromFlags_cases (f : WriteFlags) (i : Instance) :
    (f.OK ∧ overrideFromFlags f i = .ok (overridden f i)) ∨
    (¬ f.OK ∧ (overrideFromFlags f i = .error .invalid ∨ overrideFromFlags f i = .error .syntax)) := by
  unfold overrideFromFlags
  simp only [bind, Except.bind, pure, Except.pure, throw, throwThe, MonadExceptOf.throw]
  repeat' split
  all_goals simp_all [WriteFlags.ok_iff, overridden]

theorem overrideFromFlags_ok {f : WriteFlags} {i i' : Instance} :
    overrideFromFlags f i = .ok i' ↔ f.OK ∧ overridden f i = i' := by
  rcases overrideFromFlags_cases f i with ⟨hf, h⟩ | ⟨hf, h | h⟩ <;> simp [h, hf]

theorem overrideFromFlags_safe (f : WriteFlags) (i : Instance) : Safe (overrideFromFlags f i) := by
  rcases overrideFromFlags_cases f i with ⟨_, h⟩ | ⟨_, h | h⟩ <;> rw [h]
  · exact safe_ok _
  · exact safe_err rfl
  · exact safe_err rfl

theorem overridden_idem (f : WriteFlags) (i : Instance) : overridden f (overridden f i) = overridden f i := by
  simp only [overridden]
  congr 1 <;> split <;> rfl

/-- the instances `prepareWrite` hands on: the flags applied to the first one -/
def prepared (f : WriteFlags) : List Instance → List Instance
  | [] => []
  | i :: rest => overridden f i :: rest

@[simp] theorem prepared_track (f : WriteFlags) (n : Int) (is : List Instance) :
    prepared { f with track := n } is = prepared f is := by
  cases is <;> rfl

theorem prepared_idem (f : WriteFlags) (is : List Instance) : prepared f (prepared f is) = prepared f is := by
  cases is with
  | nil => rfl
  | cons i rest => simp only [prepared, overridden_idem]

def ChordsKnown (d : Dict) (is : List Instance) : Prop :=
  ∀ i ∈ is, ∀ c, i.chord = some c → (d.chord c.name).isSome = true

theorem chordsKnown_iff {d : Dict} {is : List Instance} :
    ChordsKnown d is ↔ ¬ (is.any fun i => match i.chord with | some c => (d.chord c.name).isNone | none => false) = true := by
  simp only [ChordsKnown, Bool.not_eq_true, List.any_eq_false]
  refine forall₂_congr fun i _ => ?_
  cases i.chord <;> simp [Option.isSome_iff_ne_none]

/-- what `prepareWrite f is = .ok (d, N, is')` says -/
structure Prepared (f : WriteFlags) (is : List Instance) (d : Dict) (N : Nat) (is' : List Instance) : Prop where
  track_pos : 1 ≤ f.track
  track_le : f.track ≤ maxTracks
  dict : newDict f.userAttrs f.userChords = some d
  count : N = f.track.toNat
  flags : is = [] ∨ f.OK
  instances : is' = prepared f is
  known : ChordsKnown d is'

theorem Prepared.count_pos {f : WriteFlags} {is is' : List Instance} {d : Dict} {N : Nat} (h : Prepared f is d N is') :
    1 ≤ N := by
  have := h.track_pos; have := h.count; omega

theorem Prepared.count_le {f : WriteFlags} {is is' : List Instance} {d : Dict} {N : Nat} (h : Prepared f is d N is') :
    N ≤ maxTracks := by
  have := h.track_le; have := h.count; omega

theorem Prepared.forall {P : Instance → Prop} {f : WriteFlags} {is is' : List Instance} {d : Dict} {N : Nat}
    (hp : Prepared f is d N is') (hP : f.OK → ∀ i, P i → P (overridden f i)) (h : ∀ i ∈ is, P i) : ∀ i ∈ is', P i := by
  obtain rfl := hp.instances
  cases is with
  | nil => exact h
  | cons a rest =>
    simp only [prepared, List.forall_mem_cons] at h ⊢
    exact ⟨hP (hp.flags.resolve_left (by simp)) a h.1, h.2⟩

theorem prepareWrite_ok {f : WriteFlags} {is is' : List Instance} {d : Dict} {N : Nat} :
    prepareWrite f is = .ok (d, N, is') ↔ Prepared f is d N is' := by
  unfold prepareWrite
  dsimp only
  simp only [guard_ok_iff, Int.not_lt, gt_iff_lt]
  cases hd0 : newDict f.userAttrs f.userChords with
  | none => exact ⟨by simp [throw_bind_ok_iff], fun h => by cases hd0.symm.trans h.dict⟩
  | some d0 =>
    cases is with
    | nil =>
      simp only [pure_bind, guard_ok_iff]
      simp only [pure, Except.pure, Except.ok.injEq, Prod.mk.injEq]
      constructor
      · rintro ⟨h1, h2, hk, rfl, rfl, rfl⟩
        exact ⟨h1, h2, hd0, rfl, .inl rfl, rfl, chordsKnown_iff.mpr hk⟩
      · rintro ⟨h1, h2, hd, rfl, _, rfl, hk⟩
        cases hd0.symm.trans hd
        exact ⟨h1, h2, chordsKnown_iff.mp hk, rfl, rfl, rfl⟩
    | cons i rest =>
      simp only [do_ok_iff, overrideFromFlags_ok, pure_bind, guard_ok_iff]
      simp only [pure, Except.pure, Except.ok.injEq, Prod.mk.injEq]
      constructor
      · rintro ⟨h1, h2, _, ⟨hf, rfl⟩, hk, rfl, rfl, rfl⟩
        exact ⟨h1, h2, hd0, rfl, .inr hf, rfl, chordsKnown_iff.mpr hk⟩
      · rintro ⟨h1, h2, hd, rfl, hf, rfl, hk⟩
        cases hd0.symm.trans hd
        exact ⟨h1, h2, _, ⟨hf.resolve_left (by simp), rfl⟩, chordsKnown_iff.mp hk, rfl, rfl, rfl⟩

theorem prepareWrite_safe (f : WriteFlags) (is : List Instance) : Safe (prepareWrite f is) := by
  unfold prepareWrite
  dsimp only
  refine safe_guard rfl (safe_guard rfl ?_)
  cases newDict f.userAttrs f.userChords with
  | none => exact safe_bind (safe_err rfl) nofun
  | some d =>
    refine safe_bind (safe_ok d) fun _ _ => ?_
    cases is with
    | nil => exact safe_bind (safe_ok _) fun _ _ => safe_guard rfl (safe_ok _)
    | cons i rest =>
      exact safe_bind (overrideFromFlags_safe f i) fun _ _ => safe_bind (safe_ok _) fun _ _ => safe_guard rfl (safe_ok _)

theorem cmdWriteTracks_ok {f : WriteFlags} {is : List Instance} {tracks : List Track}
    (h : cmdWriteTracks f is = .ok tracks) : ∃ d N is' calls,
      prepareWrite f is = .ok (d, N, is') ∧ playWrite d is' = .ok calls ∧ pieceTicks goTicks is' ≤ maxTicks ∧
      (runCalls goTicks (MW.new N f.instrument f.program Generated.defaultSequenceName) calls).tracks = tracks := by
  unfold cmdWriteTracks at h
  obtain ⟨⟨d, N, is'⟩, hp, h⟩ := do_ok_iff.mp h
  obtain ⟨calls, hw, h⟩ := do_ok_iff.mp h
  obtain ⟨hl, h⟩ := guard_ok_iff.mp h
  cases h
  exact ⟨d, N, is', calls, hp, hw, Nat.le_of_not_gt hl, rfl⟩

theorem cmdWrite_ok {f : WriteFlags} {attrs : List RawAttr} {rs : List RawInstance} {b : Bytes}
    (h : cmdWrite f attrs rs = .ok b) : ∃ is as ts, rs.mapM decodeInstance = .ok is ∧ loadAttrs attrs = .ok as ∧
      cmdWriteTracks { f with userAttrs := as } is = .ok ts ∧ smfEncode Generated.ticksPerQuarter ts = some b := by
  unfold cmdWrite at h
  obtain ⟨is, h1, h⟩ := do_ok_iff.mp h
  obtain ⟨as, h2, h⟩ := do_ok_iff.mp h
  obtain ⟨ts, h3, h⟩ := do_ok_iff.mp h
  refine ⟨is, as, ts, h1, h2, h3, ?_⟩
  split at h
  · cases h; assumption
  · cases h

theorem cmdWriteTracks_congr {f : WriteFlags} {is is' : List Instance} (h : prepareWrite f is = prepareWrite f is') :
    cmdWriteTracks f is = cmdWriteTracks f is' := by
  unfold cmdWriteTracks
  rw [h]

/-- what `cmdWriteConv f attrs cs rs = .ok out` says: there are commands, all of them `cmt`; the document decodes, the
attribute file loads, the piece with the `cmt` texts added is prepared as `write` prepares it, and `out` is its print -/
theorem cmdWriteConv_ok {f : WriteFlags} {attrs : List RawAttr} {cs : List String} {rs out : List RawInstance} :
    cmdWriteConv f attrs cs rs = .ok out ↔ cs ≠ [] ∧ (∀ c ∈ cs, c = "cmt") ∧ ∃ is as d n is2,
      rs.mapM decodeInstance = .ok is ∧ loadAttrs attrs = .ok as ∧
      Prepared { f with userAttrs := as } (is.map modifyCmt) d n is2 ∧ out = is2.map encodeInstance := by
  have hall : (∀ c ∈ cs, c = "cmt") ↔ ¬ cs.any (· ≠ "cmt") = true := by simp
  unfold cmdWriteConv
  constructor
  · intro h
    split at h
    · cases h
    obtain ⟨is, h1, h⟩ := bind_ok_iff.mp h
    split at h
    · cases h
    obtain ⟨as, h2, h⟩ := bind_ok_iff.mp h
    obtain ⟨⟨d, n, is2⟩, h3, h⟩ := bind_ok_iff.mp h
    cases h
    exact ⟨fun e => ‹¬ cs.isEmpty = true› (e ▸ rfl), hall.mpr ‹_›, is, as, d, n, is2, h1, h2, prepareWrite_ok.mp h3, rfl⟩
  · rintro ⟨hne, hc, is, as, d, n, is2, h1, h2, h3, rfl⟩
    rw [if_neg (by simpa using hne), h1]
    simp only [Except.bind, if_neg (hall.mp hc), h2, prepareWrite_ok.mpr h3]
end Crd
