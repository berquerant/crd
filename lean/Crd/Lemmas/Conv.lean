import Crd.Model.Conv
import Crd.Lemmas.Except

/-!
# The text converter's functions: what success of `syllableDegrees` and of the classifier means
-/
namespace Crd

theorem liftGetDeg_ok {g : GetDeg} {d : Degree} : liftGetDeg g = .ok d ↔ g = .ok d := by
  cases g <;> simp [liftGetDeg]

/-- what a successful `convertChordDegree` went through: the root (and the bass) were read as notes with a tendency
in the scale, and the two interval searches succeeded -/
theorem syllableDegrees_ok {s : Scale} {root : DegreeN} {base : Option DegreeN} {d : Degree} {b : Option Degree}
    (h : syllableDegrees s root base = .ok (d, b)) :
    ∃ rn t tonic, newScaleNote root = .ok rn ∧ getTendency s rn = .ok t ∧ s.notes.head? = some tonic ∧
      tonic.getDegree rn (t == .sharp) = .ok d ∧
      ((base = none ∧ b = none) ∨ ∃ bt bd bn t2, base = some bt ∧ b = some bd ∧
        newScaleNote bt = .ok bn ∧ getTendency s bn = .ok t2 ∧ rn.getDegree bn (t2 == .sharp) = .ok bd) := by
  unfold syllableDegrees at h
  obtain ⟨rn, hrn, h⟩ := do_ok_iff.mp h
  obtain ⟨t, ht, h⟩ := do_ok_iff.mp h
  dsimp only at h
  split at h
  case h_2 => cases h
  rename_i tonic hto
  obtain ⟨_, e, h⟩ := do_ok_iff.mp h
  cases e
  obtain ⟨d0, hd0, h⟩ := do_ok_iff.mp h
  refine ⟨rn, t, tonic, hrn, ht, hto, ?_⟩
  cases base with
  | none =>
    cases h
    exact ⟨liftGetDeg_ok.mp hd0, .inl ⟨rfl, rfl⟩⟩
  | some bt =>
    obtain ⟨bn, hbn, h⟩ := do_ok_iff.mp h
    obtain ⟨t2, ht2, h⟩ := do_ok_iff.mp h
    obtain ⟨d2, hd2, h⟩ := do_ok_iff.mp h
    cases h
    exact ⟨liftGetDeg_ok.mp hd0, .inr ⟨bt, d2, bn, t2, rfl, rfl, hbn, ht2, liftGetDeg_ok.mp hd2⟩⟩

/-- the classifier accepts a list of degree nodes only if all have the type it returns (and the type seen so
far, if any, is that type): the loop's invariant, along its own recursion -/
theorem classify_go_ok {ds : List DegreeN} {cur : Option AstType} {ty : AstType} (h : classify.go cur ds = .ok ty) :
    (∀ d ∈ ds, degreeType d = some ty) ∧ ∀ c, cur = some c → c = ty := by
  fun_induction classify.go cur ds <;> simp_all

theorem classify_go_error {ds : List DegreeN} {cur : Option AstType} {e : Err} (h : classify.go cur ds = .error e) :
    e = .invalid := by
  fun_induction classify.go cur ds <;> simp_all

end Crd
