import Crd.Model.Play
import Crd.Lemmas.Degree

/-!
# `play.Key.Apply`: the MIDI keys of a chord (C01)
-/
namespace Crd
open Generated

theorem middleC_val : middleC = 60 := by decide

theorem emod_eq (a b : Int) : a.emod b = a % b := rfl

theorem u8_cast (i : Int) : ((u8 i : Nat) : Int) = i.emod 256 := by
  unfold u8
  have : 0 ≤ i.emod 256 := Int.emod_nonneg _ (by decide)
  omega

/-- what `Apply` looks up before it computes: the tones `attrs` of the chord's symbol, and the sizes in semitones of
the key's tonic, the chord's degree, its bass (a unison if absent) and its tones -/
structure Voicing (d : Dict) (k : Key) (c : ChordIn) (attrs : List Attr) (ks cd b : Int) (ss : List Int) : Prop where
  symbol : d.chordAttrs ((d.chord c.name).map (·.name) |>.getD c.name) = some attrs
  tonic : k.semitone? = some ks
  degree : c.degree.semitone = some cd
  bass : (c.base.getD ⟨1, .perfect⟩).semitone = some b
  tones : attrs.mapM (fun a => a.degree.semitone) = some ss

/-- **what success of `Apply` means**: the look-ups succeed and the keys are the bass followed by the tones, all in
`uint8` arithmetic -/
theorem applyChord_ok {d : Dict} {k : Key} {c : ChordIn} {keys : List Nat} :
    applyChord d k c = .ok keys ↔ ∃ attrs ks cd b ss, Voicing d k c attrs ks cd b ss ∧
      u8 (u8 (u8 (u8 middleC + u8 ks) + u8 cd) + u8 b - u8 octaveSemitones) ::
        ss.map (fun s => u8 (u8 (u8 (u8 middleC + u8 ks) + u8 cd) + u8 s)) = keys := by
  constructor
  · intro h
    unfold applyChord at h
    -- five look-ups in a row, each refusing with its own error
    split at h; · cases h
    split at h; · cases h
    split at h; · cases h
    split at h; · cases h
    split at h; · cases h
    cases h
    exact ⟨_, _, _, _, _, ⟨‹_›, ‹_›, ‹_›, ‹_›, ‹_›⟩, rfl⟩
  · rintro ⟨attrs, ks, cd, b, ss, v, rfl⟩
    simp only [applyChord, v.symbol, v.tonic, v.degree, v.bass, v.tones]

theorem applyChord_ne_nil (d : Dict) (k : Key) (c : ChordIn) (keys : List Nat) (h : applyChord d k c = .ok keys) : keys ≠ [] := by
  obtain ⟨_, _, _, _, _, _, rfl⟩ := applyChord_ok.1 h
  exact List.cons_ne_nil _ _

/-- the pitches `Apply` computes, as integers modulo 256 (Go: `uint8` arithmetic): bass first -/
theorem apply_pitches_mod (d : Dict) (k : Key) (c : ChordIn) (keys : List Nat) (h : applyChord d k c = .ok keys) :
    ∃ attrs ks cd b ss, Voicing d k c attrs ks cd b ss ∧
      keys.map (fun (x : Nat) => (x : Int)) = ((60 + ks + cd + b - 12).emod 256) :: ss.map (fun s => (60 + ks + cd + s).emod 256) := by
  obtain ⟨attrs, ks, cd, b, ss, v, rfl⟩ := applyChord_ok.1 h
  refine ⟨attrs, ks, cd, b, ss, v, ?_⟩
  simp only [List.map_cons, List.map_map, middleC_val, oct12, u8_cast, emod_eq]
  congr 1
  · omega
  · apply List.map_congr_left
    intro s _
    simp only [Function.comp, u8_cast, emod_eq]
    omega

/-- inside the MIDI range nothing wraps: bass = root − 12 + bass interval, tones = root + each interval,
with root = middle C (60) + tonic + degree -/
theorem apply_pitches (d : Dict) (k : Key) (c : ChordIn) (keys : List Nat) (h : applyChord d k c = .ok keys) :
    ∃ (attrs : List Attr) (ks cd b : Int) (ss : List Int),
      d.chordAttrs ((d.chord c.name).map (·.name) |>.getD c.name) = some attrs ∧
      k.semitone? = some ks ∧ c.degree.semitone = some cd ∧ (c.base.getD ⟨1, .perfect⟩).semitone = some b ∧
      attrs.mapM (fun a => a.degree.semitone) = some ss ∧
      ((∀ x ∈ (60 + ks + cd + b - 12) :: ss.map (fun s => 60 + ks + cd + s), 0 ≤ x ∧ x ≤ 127) →
        keys.map (fun (x : Nat) => (x : Int)) = (60 + ks + cd + b - 12) :: ss.map (fun s => 60 + ks + cd + s)) := by
  obtain ⟨attrs, ks, cd, b, ss, v, h6⟩ := apply_pitches_mod d k c keys h
  refine ⟨attrs, ks, cd, b, ss, v.symbol, v.tonic, v.degree, v.bass, v.tones, ?_⟩
  intro hr
  have small : ∀ x : Int, 0 ≤ x ∧ x ≤ 127 → x.emod 256 = x := fun x hx => Int.emod_eq_of_lt hx.1 (by omega)
  rw [h6]
  congr 1
  · exact small _ (hr _ (List.mem_cons_self ..))
  · exact List.map_congr_left fun s hs => small _ (hr _ (List.mem_cons_of_mem _ (List.mem_map.mpr ⟨s, hs, rfl⟩)))

/-- an absent bass is a perfect unison: 0 semitones -/
theorem default_bass : (Degree.mk 1 .perfect).semitone = some 0 := by decide

end Crd
