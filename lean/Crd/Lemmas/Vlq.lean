import Crd.Model.Smf
import Crd.Spec.SmfStrict

/-!
# gomidi's variable-length quantity, read back by the strict reader: every delta up to 0x0FFFFFFF

The writer's fuel is the value itself, so `q ≤ f` ("the fuel suffices") is the only fact about it that is used.
-/
namespace Crd
open Crd.Spec

theorem vlqHi_zero (f : Nat) : vlqHi f 0 = [] := by cases f <;> rfl

theorem vlqHi_pos (f q : Nat) (h : q ≠ 0) : vlqHi (f + 1) q = vlqHi f (q / 128) ++ [q % 128 + 128] := by
  simp [vlqHi, h]

theorem vlqAux_cont {F acc b : Nat} {bs : List Nat} (h1 : 128 ≤ b) (h2 : b < 256) :
    vlqAux (F + 1) acc (b :: bs) = vlqAux F (acc * 128 + (b - 128)) bs := by
  have : ¬ b < 128 := by omega
  rw [vlqAux]; simp only [this, h2, if_false, if_true]

theorem vlqAux_last {F acc b : Nat} {bs : List Nat} (h : b < 128) :
    vlqAux (F + 1) acc (b :: bs) = some (acc * 128 + b, bs) := by
  rw [vlqAux]; simp only [h, if_true]

theorem vlqAux_vlqHi (f q acc F : Nat) (tail : List Nat) (hf : q ≤ f) :
    vlqAux (F + (vlqHi f q).length) acc (vlqHi f q ++ tail) = vlqAux F (acc * 128 ^ (vlqHi f q).length + q) tail := by
  induction f generalizing q acc F tail with
  | zero => simp [show q = 0 by omega, vlqHi]
  | succ f ih =>
    by_cases h0 : q = 0
    · simp [h0, vlqHi_zero]
    · rw [vlqHi_pos f q h0, List.append_assoc, List.length_append, List.length_singleton, ← Nat.add_assoc, Nat.add_right_comm F,
        ih _ _ (F + 1) _ (by omega)]
      rw [List.singleton_append, vlqAux_cont (by omega) (by omega), Nat.pow_succ, ← Nat.mul_assoc]
      generalize acc * 128 ^ (vlqHi f (q / 128)).length = X
      rw [show (X + q / 128) * 128 + (q % 128 + 128 - 128) = X * 128 + q by omega]

theorem vlqHi_length_le (f q k : Nat) (hf : q ≤ f) (hq : q < 128 ^ k) : (vlqHi f q).length ≤ k := by
  induction f generalizing q k with
  | zero => simp [vlqHi]
  | succ f ih =>
    by_cases h0 : q = 0
    · simp [h0, vlqHi_zero]
    · obtain ⟨k, rfl⟩ : ∃ k', k = k' + 1 := ⟨k - 1, by cases k <;> simp_all⟩
      have := ih (q / 128) k (by omega) (by rw [Nat.div_lt_iff_lt_mul (by decide)]; rw [Nat.pow_succ] at hq; omega)
      simp [vlqHi_pos f q h0]; omega

theorem vlqHi_head (f q : Nat) (tail : List Nat) (hf : q ≤ f) (h0 : q ≠ 0) : (vlqHi f q ++ tail).head? ≠ some 0x80 := by
  induction f generalizing q tail with
  | zero => omega
  | succ f ih =>
    rw [vlqHi_pos f q h0, List.append_assoc]
    by_cases hh : q / 128 = 0
    · simp [hh, vlqHi_zero]; omega
    · exact ih _ _ (by omega) hh

/-- written quantities are canonical: no leading zero group -/
theorem vlq_head (n : Nat) (rest : List Nat) : (vlq n ++ rest).head? ≠ some 0x80 := by
  unfold vlq
  by_cases h0 : n / 128 = 0
  · simp [h0, vlqHi_zero]; omega
  · rw [List.append_assoc]; exact vlqHi_head _ _ _ (by omega) h0

theorem vlqAux_vlq (F n : Nat) (hn : n < 128 ^ (F + 1)) (rest : List Nat) : vlqAux (F + 1) 0 (vlq n ++ rest) = some (n, rest) := by
  have hlen := vlqHi_length_le n (n / 128) F (by omega)
    (by rw [Nat.div_lt_iff_lt_mul (by decide)]; rw [Nat.pow_succ] at hn; omega)
  rw [vlq, List.append_assoc, show F + 1 = (F - (vlqHi n (n / 128)).length + 1) + (vlqHi n (n / 128)).length by omega,
    vlqAux_vlqHi _ _ _ _ _ (by omega), List.singleton_append, vlqAux_last (by omega), Nat.zero_mul, Nat.zero_add]
  congr 2; omega

/-- **every delta time up to 0x0FFFFFFF that gomidi writes is read back by the strict reader** (at most four bytes,
canonical, value and rest exact) -/
theorem readVlq_vlq (n : Nat) (hn : n ≤ 0x0FFFFFFF) (rest : List Nat) : readVlq (vlq n ++ rest) = some (n, rest) := by
  unfold readVlq
  split
  · rename_i heq; exact absurd (by rw [heq]; rfl) (vlq_head n rest)
  · exact vlqAux_vlq 3 n (by omega) rest

theorem vlqHi_bytes (f q : Nat) : ∀ b ∈ vlqHi f q, b < 256 := by
  induction f generalizing q with
  | zero => simp [vlqHi]
  | succ f ih =>
    by_cases h0 : q = 0
    · simp [h0, vlqHi_zero]
    · simp only [vlqHi_pos f q h0, List.forall_mem_append, List.forall_mem_singleton]
      exact ⟨ih _, by omega⟩

theorem vlq_bytes' (n : Nat) : ∀ b ∈ vlq n, b < 256 := by
  simp only [vlq, List.forall_mem_append, List.forall_mem_singleton]
  exact ⟨vlqHi_bytes _ _, by omega⟩

end Crd
