import Crd.Model.Parser

/-!
# The scanner: what one step does, seen from the first rune after the white space, and that the run of steps
ends (no hang)
-/
namespace Crd
open Generated

theorem spanW_iff {p : Char → Bool} {l u r : List Char} :
    spanW p l = (u, r) ↔ l = u ++ r ∧ (∀ c ∈ u, p c = true) ∧ ∀ c ∈ r.head?, p c = false := by
  constructor
  · intro h
    induction l generalizing u with
    | nil => cases h; simp
    | cons c cs ih =>
      unfold spanW at h
      split at h
      · next hc => cases h; simpa [hc] using ih rfl
      · next hc => cases h; simpa using hc
  · rintro ⟨rfl, hu, hr⟩
    induction u with
    | nil => cases r <;> simp_all [spanW]
    | cons c cs ih => simp_all [spanW]

theorem spanW_spec (p : Char → Bool) (l : List Char) :
    l = (spanW p l).1 ++ (spanW p l).2 ∧ (∀ c ∈ (spanW p l).1, p c = true) ∧ ∀ c ∈ (spanW p l).2.head?, p c = false :=
  spanW_iff.mp rfl

theorem spanW_cons_pos {p : Char → Bool} {c : Char} (h : p c = true) (cs : List Char) :
    spanW p (c :: cs) = (c :: (spanW p cs).1, (spanW p cs).2) := by simp [spanW, h]

theorem spanW_cons_neg {p : Char → Bool} {c : Char} (h : p c = false) (cs : List Char) :
    spanW p (c :: cs) = ([], c :: cs) := by simp [spanW, h]

theorem spanW_eq (p : Char → Bool) (l : List Char) : spanW p l = ((spanW p l).1, (spanW p l).2) := rfl

/-- the generated EOF guards are all present -/
theorem eof_safe : eofSafe = true := by decide

/-- every rune that stops a symbol run is handled by the scanner's switch (comment or single-rune token) -/
theorem stop_runes_handled : ∀ c ∈ symbolStopRunes, c = commentStart ∨ (singleTok c).isSome = true := by decide

theorem symbol_excludes_space : symbolRuneExcludesSpace = true := by decide

theorem comment_facts : isSpace commentStart = false ∧ isSpace commentStop = true ∧ commentStart ≠ commentStop := by
  decide

/-- **no silent stop inside the input**: a rune that is not white space, not the comment start, not a
single-rune token and not a digit is a symbol rune — so the scanner's silent `default: return EOF` is taken only
at the true end of input, and no suffix can be dropped -/
theorem unhandled_is_symbol (c : Char) (hs : isSpace c = false) (hc : c ≠ commentStart) (ht : singleTok c = none) :
    isSymbolRune c = true := by
  have : c ∉ symbolStopRunes := fun hmem => by
    rcases stop_runes_handled c hmem with h | h
    · exact hc h
    · simp [ht] at h
  simp [isSymbolRune, hs, this]

theorem lexStep_nil (safe es em : Bool) : lexStep safe es em [] = if es then .fail else .eof := rfl

theorem lexStep_space (safe es em : Bool) {c : Char} (cs : List Char) (hc : isSpace c = true) :
    lexStep safe es em (c :: cs) = lexStep safe es em cs := by
  simp [lexStep, spanW, hc]

theorem stepRun_cons {p : Char → Bool} {c : Char} (hp : p c = true) (k : TK) (es em : Bool) (cs : List Char) :
    stepRun true p k es em (c :: cs) = .emit ⟨k, c :: (spanW p cs).1⟩ es em (spanW p cs).2 := by
  simp [stepRun, spanW_cons_pos hp]

/-- the state and the first rune after the white space alone decide what the scanner reads: a token that goes on
while `p` holds (`p` holds nowhere for a single-rune token, and only of digits or symbol runes unless the token is a
METADATA run), a comment, or nothing -/
theorem lexStep_cons (es em : Bool) {c : Char} (hc : isSpace c = false) :
    (∃ p k es' em', (k ≠ .METADATA → ∀ x, p x = true → isDigitC x = true ∨ isSymbolRune x = true) ∧
      ∀ cs, lexStep true es em (c :: cs) = .emit ⟨k, c :: (spanW p cs).1⟩ es' em' (spanW p cs).2) ∨
    (c = commentStart ∧ ∀ cs, lexStep true es em (c :: cs) = .skip (spanW (· ≠ commentStop) cs).2) ∨
    ∀ cs, lexStep true es em (c :: cs) = .fail := by
  have h0 : ∀ cs, lexStep true es em (c :: cs) = _ := fun cs => by rw [lexStep, spanW_cons_neg hc]
  by_cases h1 : em = true ∧ isMetaRune c = true
  · exact .inl ⟨isMetaRune, .METADATA, es, em, by simp, fun cs => by rw [h0]; simp [h1, stepRun_cons h1.2]⟩
  by_cases h2 : es = true
  · by_cases h3 : isSymbolRune c = true
    · exact .inl ⟨isSymbolRune, .SYMBOL, false, em, fun _ _ hx => .inr hx, fun cs => by
        rw [h0]; simp [h1, h2, h3, stepRun_cons h3]⟩
    · exact .inr (.inr fun cs => by rw [h0]; simp [h1, h2, h3])
  by_cases h3 : c = commentStart
  · subst h3
    exact .inr (.inl ⟨rfl, fun cs => by rw [h0]; simp [h1, h2, spanW_cons_pos, comment_facts.2.2]⟩)
  cases h4 : singleTok c with
  | some x =>
    have : ∀ cs, spanW (fun _ => false) cs = ([], cs) := fun cs => spanW_iff.mpr (by simp)
    exact .inl ⟨fun _ => false, x.1, x.2.1.getD es, x.2.2.getD em, by simp, fun cs => by
      rw [h0]; simp [h1, h2, h3, h4, this]⟩
  | none =>
    by_cases h5 : isDigitC c = true
    · exact .inl ⟨isDigitC, .NUMBER, es, em, fun _ _ hx => .inl hx, fun cs => by
        rw [h0]; simp [h1, h2, h3, h4, h5, stepRun_cons h5]⟩
    · -- the scanner's `default: return EOF` is not reached
      have h6 := unhandled_is_symbol c hc h3 h4
      exact .inl ⟨isSymbolRune, .SYMBOL, es, em, fun _ _ hx => .inr hx, fun cs => by
        rw [h0]; simp [h1, h2, h3, h4, h5, h6, stepRun_cons h6]⟩

def TokOK (t : Tok) : Prop := ∃ c r, t.v = c :: r ∧ isSpace c = false

def StepShape (inp : List Char) : Step → Prop
  | .eof => ∀ c ∈ inp, isSpace c = true
  | .skip rest => ∃ w body, (∀ c ∈ w, isSpace c = true) ∧ (∀ x ∈ body, x ≠ commentStop) ∧
      inp = w ++ commentStart :: (body ++ rest) ∧ ∀ c ∈ rest.head?, c = commentStop
  | .emit t _ _ rest => ∃ w, (∀ c ∈ w, isSpace c = true) ∧ inp = w ++ t.v ++ rest ∧ TokOK t
  | .fail => True
  | .hang => False

theorem StepShape.space {c : Char} (hc : isSpace c = true) {inp : List Char} :
    ∀ {s : Step}, StepShape inp s → StepShape (c :: inp) s
  | .eof, h => by simpa [StepShape, hc] using h
  | .skip _, ⟨w, body, hw, hb, hi, hr⟩ => ⟨c :: w, body, by simpa [hc] using hw, hb, by simp [hi], hr⟩
  | .emit _ _ _ _, ⟨w, hw, hi, ht⟩ => ⟨c :: w, by simpa [hc] using hw, by simp [hi], ht⟩
  | .fail, _ => trivial

theorem lexStep_shape (es em : Bool) : ∀ inp, StepShape inp (lexStep true es em inp)
  | [] => by cases es <;> simp [lexStep_nil, StepShape]
  | c :: cs => by
    by_cases hc : isSpace c = true
    · rw [lexStep_space _ _ _ cs hc]
      exact (lexStep_shape es em cs).space hc
    · have hc : isSpace c = false := by simpa using hc
      rcases lexStep_cons es em hc with ⟨p, k, es', em', -, h⟩ | ⟨rfl, h⟩ | h
      · rw [h]
        exact ⟨[], by simp, by simpa using (spanW_spec p cs).1, c, _, rfl, hc⟩
      · rw [h]
        obtain ⟨h1, h2, h3⟩ := spanW_spec (· ≠ commentStop) cs
        exact ⟨[], _, by simp, by simpa using h2, by simpa using h1, by simpa using h3⟩
      · rw [h]
        trivial

theorem lexStep_lt {es em : Bool} {inp rest : List Char} :
    (lexStep true es em inp = .skip rest ∨ ∃ t es' em', lexStep true es em inp = .emit t es' em' rest) →
      rest.length < inp.length := by
  have := lexStep_shape es em inp
  rintro (h | ⟨t, es', em', h⟩) <;> rw [h] at this
  · obtain ⟨w, body, -, -, rfl, -⟩ := this
    simp; omega
  · obtain ⟨w, -, rfl, c, r, hv, -⟩ := this
    simp [hv]; omega

/-- **cut**: a token depends on the text after it only through whether the next rune would continue it (`p`; for a
token that is not a METADATA run only digits and symbol runes can) -/
theorem lexStep_cut (es em : Bool) (t : Tok) (es' em' : Bool) (r : List Char) :
    ∀ x, lexStep true es em x = .emit t es' em' r →
      ∃ (consumed : List Char) (p : Char → Bool), x = consumed ++ r ∧
        (t.k ≠ .METADATA → ∀ c, p c = true → isDigitC c = true ∨ isSymbolRune c = true) ∧
        ∀ r', (∀ c ∈ r'.head?, p c = false) → lexStep true es em (consumed ++ r') = .emit t es' em' r'
  | [], h => by cases es <;> simp [lexStep_nil] at h
  | c :: cs, h => by
    by_cases hc : isSpace c = true
    · rw [lexStep_space _ _ _ cs hc] at h
      obtain ⟨consumed, p, rfl, hp, hcut⟩ := lexStep_cut es em t es' em' r cs h
      refine ⟨c :: consumed, p, rfl, hp, fun r' hr' => ?_⟩
      rw [List.cons_append, lexStep_space _ _ _ _ hc]
      exact hcut r' hr'
    · rcases lexStep_cons es em (by simpa using hc) with ⟨p, k, es'', em'', hp, hrun⟩ | ⟨-, hskip⟩ | hfail
      · obtain ⟨hcs, hall, -⟩ := spanW_spec p cs
        rw [hrun, Step.emit.injEq] at h
        obtain ⟨rfl, rfl, rfl, rfl⟩ := h
        refine ⟨c :: (spanW p cs).1, p, by rw [List.cons_append, ← hcs], hp, fun r' hr' => ?_⟩
        rw [List.cons_append, hrun, spanW_iff.mpr ⟨rfl, hall, hr'⟩]
      · rw [hskip] at h; cases h
      · rw [hfail] at h; cases h

theorem lexStep_induct {P : Bool → Bool → List Char → Prop}
    (step : ∀ es em inp, (∀ rest, lexStep true es em inp = .skip rest → P es em rest) →
      (∀ t es' em' rest, lexStep true es em inp = .emit t es' em' rest → P es' em' rest) → P es em inp)
    (es em : Bool) (inp : List Char) : P es em inp := by
  generalize hn : inp.length = n
  induction n using Nat.strongRecOn generalizing es em inp with
  | _ n ih =>
    subst hn
    exact step es em inp (fun rest h => ih _ (lexStep_lt (.inl h)) _ _ _ rfl)
      (fun t es' em' rest h => ih _ (lexStep_lt (.inr ⟨t, es', em', h⟩)) _ _ _ rfl)

theorem lexAll_fuel (es em : Bool) (inp : List Char) : ∀ (f f' : Nat) (acc : List Tok),
    inp.length < f → inp.length < f' → lexAll true f es em inp acc = lexAll true f' es em inp acc := by
  induction es, em, inp using lexStep_induct with
  | step es em inp ihs ihe =>
    intro f f' acc hf hf'
    obtain ⟨f, rfl⟩ : ∃ g, f = g + 1 := ⟨f - 1, by omega⟩
    obtain ⟨f', rfl⟩ : ∃ g, f' = g + 1 := ⟨f' - 1, by omega⟩
    rw [lexAll, lexAll]
    cases h : lexStep true es em inp with
    | skip rest =>
      have := lexStep_lt (.inl h)
      exact ihs rest h _ _ _ (by omega) (by omega)
    | emit t es' em' rest =>
      have := lexStep_lt (.inr ⟨t, es', em', h⟩)
      exact ihe t es' em' rest h _ _ _ (by omega) (by omega)
    | _ => rfl

/-- the lexer started in state `(es, em)` on `inp`, with all the fuel it needs -/
def lexFrom (es em : Bool) (inp : List Char) (acc : List Tok) : LexOut := lexAll true (inp.length + 1) es em inp acc

theorem lexFrom_step (es em : Bool) (inp : List Char) (acc : List Tok) :
    lexFrom es em inp acc =
      match lexStep true es em inp with
      | .eof => .ok acc
      | .fail => .err acc
      | .hang => .hang acc
      | .skip rest => lexFrom es em rest acc
      | .emit t es' em' rest => lexFrom es' em' rest (acc ++ [t]) := by
  unfold lexFrom
  rw [lexAll]
  cases h : lexStep true es em inp with
  | skip rest => exact lexAll_fuel _ _ _ _ _ _ (lexStep_lt (.inl h)) (by omega)
  | emit t es' em' rest => exact lexAll_fuel _ _ _ _ _ _ (lexStep_lt (.inr ⟨t, es', em', h⟩)) (by omega)
  | _ => rfl

theorem lexChars_eq (s : List Char) : lexChars s = lexFrom false false s [] := by
  unfold lexChars lexFrom; rw [eof_safe]

theorem lexFrom_no_hang (es em : Bool) (inp : List Char) : ∀ acc ts, lexFrom es em inp acc ≠ .hang ts := by
  induction es, em, inp using lexStep_induct with
  | step es em inp ihs ihe =>
    intro acc ts
    have hs := lexStep_shape es em inp
    rw [lexFrom_step]
    cases h : lexStep true es em inp with
    | skip rest => exact ihs rest h _ _
    | emit t es' em' rest => exact ihe t es' em' rest h _ _
    | hang => rw [h] at hs; exact hs.elim
    | _ => simp

/-- **the lexer terminates on every input** -/
theorem lex_total (s : List Char) : ∀ ts, lexChars s ≠ .hang ts := by
  rw [lexChars_eq]
  exact lexFrom_no_hang _ _ _ _

/-- the text commands fail in one way only: a syntax error (the scanner's "expect symbol", or no parse) -/
theorem parseTextChars_error {s : List Char} {e : Err} (h : parseTextChars s = .error e) : e = .syntax := by
  unfold parseTextChars at h
  split at h
  · exact absurd ‹_› (lex_total s _)
  · cases h; rfl
  · split at h <;> cases h; rfl

end Crd
