import Crd.Lemmas.InstanceRT
import Crd.Props.C03

/-!
# Everything the text converters emit is a valid instance (so it survives printing and re-reading, C10)
-/
namespace Crd
open Generated Spec

def IsScale (s : Scale) : Prop := ∃ k, newScale k = some s

theorem getDegree_valid {a b : SNote} (ha : a ∈ Crd.Props.C03.notes21) (hb : b ∈ Crd.Props.C03.notes21) {o : Bool} {d : Degree}
    (h : a.getDegree b o = .ok d) : d.valid = true ∧ goUint d.value := by
  obtain ⟨h1, h2⟩ := Crd.Props.C03.getDegree_spec_ok ha hb h
  refine ⟨?_, ?_⟩
  · unfold Degree.valid; rw [semitone_eq_spec, h2]; rfl
  · rw [h1]; unfold Crd.Props.C03.letterDist goUint
    have : (letterIndex b.name + 7 - letterIndex a.name) % 7 < 7 := Nat.mod_lt _ (by decide)
    omega

theorem scale_tonic_mem (s : Scale) (hs : IsScale s) : ∃ t, s.notes.head? = some t ∧ t ∈ Crd.Props.C03.notes21 := by
  obtain ⟨k, hk⟩ := hs
  exact ⟨_, Crd.Props.C03.scale_tonic hk⟩

theorem syllableDegrees_valid (s : Scale) (hs : IsScale s) (root : DegreeN) (base : Option DegreeN) (d : Degree) (b : Option Degree)
    (h : syllableDegrees s root base = .ok (d, b)) :
    (d.valid = true ∧ goUint d.value) ∧ ∀ bd, b = some bd → bd.valid = true ∧ goUint bd.value := by
  obtain ⟨t, ht, htm⟩ := scale_tonic_mem s hs
  obtain ⟨rn, _, tonic, hrn, _, hh, hg, hb⟩ := syllableDegrees_ok h
  obtain rfl : tonic = t := Option.some.inj (hh.symm.trans ht)
  have hrm := Crd.Props.C03.newScaleNote_mem root rn hrn
  refine ⟨getDegree_valid htm hrm hg, ?_⟩
  rcases hb with ⟨_, rfl⟩ | ⟨bt, bd, bn, _, _, rfl, hbn, _, hg2⟩
  · intro bd hbd; cases hbd
  · intro bd' hbd; cases hbd
    exact getDegree_valid hrm (Crd.Props.C03.newScaleNote_mem bt bn hbn) hg2

theorem convDegreeText_valid (dn : DegreeN) (d : Degree) (h : convDegreeText dn = .ok d) : d.valid = true ∧ goUint d.value := by
  unfold convDegreeText at h
  simp only at h
  split at h
  · rename_i x hx; cases h; exact ⟨parse_valid _ _ hx, parseDegree_bound hx⟩
  · cases h

theorem convChord_valid (mode : Mode) (s : Scale) (hs : mode = .syllable → IsScale s) (root : DegreeN) (sym : Option Tok)
    (base : Option DegreeN) (c : ChordIn) (h : convChord mode s root sym base = .ok c) :
    (c.degree.valid = true ∧ goUint c.degree.value) ∧ ∀ bd, c.base = some bd → bd.valid = true ∧ goUint bd.value := by
  cases mode with
  | syllable =>
    obtain ⟨⟨d, b⟩, hsd, h⟩ := do_ok_iff.mp h
    cases h
    exact syllableDegrees_valid s (hs rfl) root base d b hsd
  | degree =>
    obtain ⟨d, hd, h⟩ := do_ok_iff.mp h
    cases base with
    | none => cases h; exact ⟨convDegreeText_valid root d hd, nofun⟩
    | some bt =>
      obtain ⟨bd, hb, h⟩ := do_ok_iff.mp h
      cases h
      exact ⟨convDegreeText_valid root d hd, fun _ e => by cases e; exact convDegreeText_valid bt bd hb⟩

theorem convValue_valid (v : ValueN) (r : Rat') (h : convValue v = .ok r) : r.valid = true ∧ goUint r.num ∧ goUint r.den := by
  unfold convValue at h
  split at h
  · cases h
  rename_i n hn
  dsimp only at h
  split at h
  · cases h
  rename_i d hd
  split at h <;> cases h
  refine ⟨‹_›, parseUint_bound hn, ?_⟩
  split at hd
  · cases hd; exact goUint_one
  · split at hd
    · cases hd; exact goUint_one
    · split at hd <;> cases hd
      exact parseUint_bound ‹_›

/-- the four settings `modifyMeta` may add are meaningful values -/
structure SettingsOK (i : Instance) : Prop where
  bpm : ∀ b, i.bpm = some b → 0 < b ∧ goUint b
  velocity : ∀ v, i.velocity = some v → v ∈ sixDyns
  meter : ∀ m, i.meter = some m → m.valid = true ∧ goUint m.num ∧ goUint m.den
  key : ∀ k, i.key = some k → k ∈ properKeys

/-- one optional textual setting: `""` = not given; anything else goes through `dec` and is stored by `put` -/
def setFrom {α : Type} (dec : String → Except Err α) (put : Instance → α → Instance) (s : String) (i : Instance) : Except Err Instance :=
  if s = "" then .ok i else (dec s).map (put i)

theorem setBPM_eq (m : List (String × String)) (i : Instance) :
    setBPM m i = setFrom decodeBPM (fun i b => { i with bpm := some b }) (metaGet m metaBPMKey) i := by
  unfold setBPM setFrom decodeBPM
  split
  · rfl
  · cases parseUint (metaGet m metaBPMKey).toList with
    | none => rfl
    | some n => cases n <;> rfl

theorem setVelocity_eq (m : List (String × String)) (i : Instance) :
    setVelocity m i = setFrom decodeDyn (fun i d => { i with velocity := some d }) (metaGet m metaVelocityKey) i := by
  unfold setVelocity setFrom decodeDyn
  split
  · rfl
  · cases Dyn.ofString (metaGet m metaVelocityKey) <;> rfl

theorem setMeter_eq (m : List (String × String)) (i : Instance) :
    setMeter m i = setFrom decodeRat (fun i r => { i with meter := some r }) (metaGet m metaMeterKey) i := by
  unfold setMeter setFrom decodeRat
  split
  · rfl
  · cases parseRat (metaGet m metaMeterKey).toList with
    | none => rfl
    | some r => dsimp only; split <;> rfl

theorem setKey_eq (m : List (String × String)) (i : Instance) :
    setKey m i = setFrom decodeKey (fun i k => { i with key := some k }) (metaGet m metaKeyKey) i := by
  unfold setKey setFrom decodeKey
  split
  · rfl
  · cases parseKey (metaGet m metaKeyKey).toList <;> rfl

theorem setFrom_safe {α : Type} {dec : String → Except Err α} (hd : ∀ s, Safe (dec s)) {put : Instance → α → Instance} {s : String}
    {i : Instance} : Safe (setFrom dec put s i) := by
  unfold setFrom; split
  · exact safe_ok _
  · exact safe_map (hd s)

theorem setFrom_error {α : Type} {dec : String → Except Err α} {put : Instance → α → Instance} {s : String} {i : Instance}
    {e : Err} (hs : s ≠ "") (h : dec s = .error e) : setFrom dec put s i = .error e := by
  rw [setFrom, if_neg hs, h]; rfl

theorem setFrom_inv {α : Type} {dec : String → Except Err α} {put : Instance → α → Instance} {s : String} {i i' : Instance}
    {P : Instance → Prop} (hput : ∀ a, dec s = .ok a → P (put i a)) (hi : P i) (h : setFrom dec put s i = .ok i') : P i' := by
  unfold setFrom at h
  split at h
  · cases h; exact hi
  · obtain ⟨a, ha, rfl⟩ := map_ok_iff.mp h
    exact hput a ha

theorem modifyMeta_settingsOK {i0 : Instance} {m : Option (List (String × String))} {i : Instance}
    (h0 : SettingsOK i0) (h : modifyMeta i0 m = .ok i) : SettingsOK i ∧ i.chord = i0.chord := by
  cases m with
  | none => cases h; exact ⟨h0, rfl⟩
  | some mm =>
    obtain ⟨i3, h, h4⟩ := bind_ok_iff.mp h
    obtain ⟨i2, h, h3⟩ := bind_ok_iff.mp h
    obtain ⟨i1, h1, h2⟩ := bind_ok_iff.mp h
    rw [setBPM_eq] at h1; rw [setVelocity_eq] at h2; rw [setMeter_eq] at h3; rw [setKey_eq] at h4
    let P := fun j : Instance => SettingsOK j ∧ j.chord = i0.chord
    have s1 : P i1 := setFrom_inv (P := P) (fun b hb =>
      ⟨⟨fun _ e => by cases e; exact decodeBPM_valid hb, h0.velocity, h0.meter, h0.key⟩, rfl⟩) ⟨h0, rfl⟩ h1
    have s2 : P i2 := setFrom_inv (P := P) (fun d hd =>
      ⟨⟨s1.1.bpm, fun _ e => by cases e; exact decodeDyn_valid hd, s1.1.meter, s1.1.key⟩, s1.2⟩) s1 h2
    have s3 : P i3 := setFrom_inv (P := P) (fun r hr =>
      ⟨⟨s2.1.bpm, s2.1.velocity, fun _ e => by cases e; exact decodeRat_valid hr, s2.1.key⟩, s2.2⟩) s2 h3
    exact setFrom_inv (P := P) (fun k hk =>
      ⟨⟨s3.1.bpm, s3.1.velocity, s3.1.meter, fun _ e => by cases e; exact decodeKey_valid hk⟩, s3.2⟩) s3 h4

theorem changeScale_isScale (mode : Mode) (s : Scale) (hs : mode = .syllable → IsScale s) (i : Instance) (s2 : Scale)
    (h : changeScale mode s i = .ok s2) : mode = .syllable → IsScale s2 := by
  intro hmode
  subst hmode
  unfold changeScale at h
  cases hk : i.key with
  | none => simp [hk] at h; subst h; exact hs rfl
  | some k =>
    simp only [hk] at h
    cases hn : newScale k with
    | none => simp [hn] at h
    | some sc => simp [hn] at h; subst h; exact ⟨k, hn⟩

theorem convItem_valid (mode : Mode) (s : Scale) (hs : mode = .syllable → IsScale s) (it : Item) (i : Instance) (s' : Scale)
    (h : convItem mode s it = .ok (i, s')) : ValidInstance i ∧ (mode = .syllable → IsScale s') := by
  unfold convItem at h
  obtain ⟨i1, hmod, h⟩ := bind_ok_iff.mp h
  obtain ⟨s2, hsc, h⟩ := bind_ok_iff.mp h
  obtain ⟨vs, hvs, h⟩ := bind_ok_iff.mp h
  obtain ⟨hset, hrest⟩ := modifyMeta_settingsOK ⟨by simp, by simp, by simp, by simp⟩ hmod
  have hs2 := changeScale_isScale mode s hs i1 s2 hsc
  have hvals : ∀ v ∈ vs, v.valid = true ∧ goUint v.num ∧ goUint v.den :=
    fun v hv => let ⟨a, _, ha⟩ := mapM_ok_output hvs v hv; convValue_valid a v ha
  have key : ∀ ch : Option ChordIn, (∀ c, ch = some c →
      (c.degree.valid = true ∧ goUint c.degree.value) ∧ ∀ bd, c.base = some bd → bd.valid = true ∧ goUint bd.value) →
      ValidInstance { i1 with values := vs, chord := ch } := fun ch hch =>
    ⟨fun c hc => (hch c hc).1, fun c b hc hb => (hch c hc).2 b hb, hvals, hset.bpm, hset.velocity, hset.meter, hset.key⟩
  cases it with
  | rest v mm =>
    cases h
    exact ⟨key _ (by rw [hrest]; nofun), hs2⟩
  | chord d sym b v mm =>
    obtain ⟨c, hc, h⟩ := bind_ok_iff.mp h
    have hcv := convChord_valid mode s2 hs2 d sym b c hc
    cases h
    exact ⟨key _ fun _ e => by cases e; exact hcv, hs2⟩

theorem convItems_valid (mode : Mode) : ∀ (items : List Item) (s : Scale) (_ : mode = .syllable → IsScale s) (is : List Instance),
    convItems mode s items = .ok is → ∀ i ∈ is, ValidInstance i
  | [], _, _, _, h, i, hi => by cases h; cases hi
  | it :: rest, s, hs, _, h, i, hi => by
    unfold convItems at h
    obtain ⟨⟨i0, s'⟩, hc, h⟩ := do_ok_iff.mp h
    obtain ⟨is', hr, h⟩ := do_ok_iff.mp h
    cases h
    obtain ⟨hv0, hs'⟩ := convItem_valid mode s hs it i0 s' hc
    rcases List.mem_cons.mp hi with rfl | hi
    · exact hv0
    · exact convItems_valid mode rest s' hs' is' hr i hi

theorem scaleOfFlag_isScale {key : String} {s : Scale} (h : scaleOfFlag key = .ok s) : IsScale s := by
  unfold scaleOfFlag at h
  dsimp only at h
  split at h
  · cases h
  · split at h <;> cases h
    exact ⟨_, ‹_›⟩

theorem cmdTextConvChars_ok {mode : Mode} {key : String} {input : List Char} {is : List Instance} :
    cmdTextConvChars mode key input = .ok is ↔
      ∃ s, (match mode with | .syllable => scaleOfFlag key = .ok s | .degree => default = s) ∧
      ∃ t, parseTextChars input = .ok t ∧ ∃ ty, classify t = .ok ty ∧ convItems mode s t = .ok is := by
  unfold cmdTextConvChars
  cases mode <;> simp only [do_ok_iff, pure, Except.pure, Except.ok.injEq]

/-- **everything `text conv` emits is a valid instance**, in either notation, for any key and any text -/
theorem cmdTextConvChars_valid {mode : Mode} {key : String} {input : List Char} {is : List Instance}
    (h : cmdTextConvChars mode key input = .ok is) : ∀ i ∈ is, ValidInstance i := by
  obtain ⟨s, hs, t, _, _, _, hc⟩ := cmdTextConvChars_ok.mp h
  refine convItems_valid mode t s ?_ is hc
  rintro rfl
  exact scaleOfFlag_isScale hs

end Crd
