import Crd.Lemmas.DegreeParse
import Crd.Lemmas.Safe
import Crd.Lemmas.Scale

/-!
# The scalar fields of the instances format print and read back; the scalar decoders; every valid instance, printed,
is read back unchanged (`instance_roundtrip`, C10)

For each of the five scalar decoders of the YAML reader: what it accepts (`decodeX_ok`), that what it accepts is a
meaningful value that fits Go's types (`decodeX_valid`), that it never crashes (`decodeX_safe`).  The setters of the
text metadata are these decoders (`setBPM_eq` … in ConvValid).  The flags go through the same parsers but not through
these functions, and `--bpm` arrives as a number: `overrideFromFlags_ok` (Prepare) speaks of the parsers.
-/
namespace Crd
open Generated

theorem digits_no_slash (n : Nat) : ∀ c ∈ Nat.toDigits 10 n, c ≠ '/' :=
  fun c hc => digit_ne (digits_all n c hc) (by decide)

theorem split_digits {ds rest : List Char} (h : ∀ c ∈ ds, c ≠ '/') :
    splitSlash (ds ++ '/' :: rest) = (ds, some rest) := by
  induction ds with
  | nil => simp [splitSlash]
  | cons d t ih =>
    have hd : d ≠ '/' := h d (by simp)
    have := ih (fun c hc => h c (by simp [hc]))
    simp [splitSlash, hd, this]

theorem split_digits_only {ds : List Char} (h : ∀ c ∈ ds, c ≠ '/') : splitSlash ds = (ds, none) := by
  induction ds with
  | nil => rfl
  | cons d t ih =>
    have hd : d ≠ '/' := h d (by simp)
    have := ih (fun c hc => h c (by simp [hc]))
    simp [splitSlash, hd, this]

/-- fractions: `n/d` (bare `n` when d = 1) reads back as the same fraction, for all n, d that fit Go's uint -/
theorem rat_roundtrip (n d : Nat) (hn : n < 2 ^ 64) (hd : d < 2 ^ 64) : parseRat (Rat'.str ⟨n, d⟩).toList = some ⟨n, d⟩ := by
  unfold Rat'.str
  by_cases h1 : d = 1
  · subst h1
    simp only [if_true, Nat.toString_eq_repr, Nat.toList_repr]
    unfold parseRat
    rw [split_digits_only (digits_no_slash n)]
    simp [parseUint_toDigits n hn]
  · simp only [h1, if_false, Nat.toString_eq_repr, String.toList_append, Nat.toList_repr]
    have : ("/" : String).toList = ['/'] := by decide
    rw [this]
    unfold parseRat
    have e : Nat.toDigits 10 n ++ ['/'] ++ Nat.toDigits 10 d = Nat.toDigits 10 n ++ '/' :: Nat.toDigits 10 d := by simp
    rw [e, split_digits (digits_no_slash n)]
    simp [parseUint_toDigits n hn, parseUint_toDigits d hd]

/-- tempo: the decimal print reads back (and stays positive) -/
theorem bpm_roundtrip (n : Nat) (h0 : 0 < n) (hn : n < 2 ^ 64) : decodeBPM (toString n) = .ok n := by
  unfold decodeBPM
  simp only [Nat.toString_eq_repr, Nat.toList_repr, parseUint_toDigits n hn]
  cases n with
  | zero => omega
  | succ m => rfl

def sixDyns : List Dyn := [.pp, .p, .mp, .mf, .f, .ff]

theorem dyn_roundtrip : ∀ d ∈ sixDyns, decodeDyn d.str = .ok d := by decide

def properKeys : List Key :=
  Letter.all.flatMap fun l => [false, true].flatMap fun m => [Acc.natural, .sharp, .flat].map fun a => ⟨l, m, a⟩

/-- all 42 key spellings `[A-G][#b]?m?` print and read back -/
theorem key_roundtrip : ∀ k ∈ properKeys, decodeKey k.str = .ok k := by decide +kernel

def goUint (n : Nat) : Prop := n < 2 ^ 64

/-- the values the converters can produce: every field holds a meaningful value that fits Go's types -/
structure ValidInstance (i : Instance) : Prop where
  degree : ∀ c, i.chord = some c → c.degree.valid = true ∧ goUint c.degree.value
  base : ∀ c b, i.chord = some c → c.base = some b → b.valid = true ∧ goUint b.value
  values : ∀ v ∈ i.values, v.valid = true ∧ goUint v.num ∧ goUint v.den
  bpm : ∀ b, i.bpm = some b → 0 < b ∧ goUint b
  velocity : ∀ v, i.velocity = some v → v ∈ sixDyns
  meter : ∀ m, i.meter = some m → m.valid = true ∧ goUint m.num ∧ goUint m.den
  key : ∀ k, i.key = some k → k ∈ properKeys

theorem goUint_one : goUint 1 := by unfold goUint; decide

theorem parseUint_bound {s : List Char} {n : Nat} (h : parseUint s = some n) : goUint n := by
  unfold parseUint at h
  split at h
  · cases h
  · dsimp only at h
    split at h <;> cases h
    assumption

theorem parseRat_bound {s : List Char} {r : Rat'} (h : parseRat s = some r) : goUint r.num ∧ goUint r.den := by
  unfold parseRat at h
  split at h
  · obtain ⟨n, hn, rfl⟩ := Option.map_eq_some_iff.mp h
    exact ⟨parseUint_bound hn, goUint_one⟩
  · split at h <;> cases h
    exact ⟨parseUint_bound ‹_›, parseUint_bound ‹_›⟩

theorem letter_of_char : ∀ c ∈ "ABCDEFG".toList, Letter.ofString (String.singleton c) ∈ Letter.all := by decide

theorem mem_properKeys {l : Letter} {m : Bool} {a : Acc} (hl : l ∈ Letter.all) (ha : a = .natural ∨ a = .sharp ∨ a = .flat) :
    (⟨l, m, a⟩ : Key) ∈ properKeys := by
  simp only [properKeys, List.mem_flatMap, List.mem_map]
  exact ⟨l, hl, m, by cases m <;> simp, a, by rcases ha with rfl | rfl | rfl <;> simp, rfl⟩

theorem parseKey_proper {s : List Char} {k : Key} (h : parseKey s = some k) : k ∈ properKeys := by
  unfold parseKey at h
  generalize hd : s.dropWhile (fun c => !("ABCDEFG".toList.contains c)) = rest at h
  cases rest with
  | nil => simp at h
  | cons c r =>
    have hc : c ∈ "ABCDEFG".toList := by
      have := List.head?_dropWhile_not (fun c => !("ABCDEFG".toList.contains c)) s
      rw [hd] at this
      simpa only [List.head?_cons, Bool.not_eq_false', List.contains_eq_mem, decide_eq_true_eq] using this
    have hl := letter_of_char c hc
    simp only [Option.some.injEq] at h
    rw [← h]
    exact mem_properKeys hl (acc_ofString _)

theorem parseSyms_bound : ∀ (syms : List (String × Coerce)) (s : List Char) (c : Coerce) (n : Nat),
    parseSyms syms s = .ok c n → goUint n
  | [], _, _, _, h => by cases h; unfold goUint; decide
  | (sym, q) :: xs, s, c, n, h => by
    unfold parseSyms at h
    split at h
    · split at h <;> cases h
      exact parseUint_bound ‹_›
    · split at h
      · exact parseSyms_bound xs s c n h
      · dsimp only at h
        split at h
        · exact parseSyms_bound xs s c n h
        · split at h <;> cases h
          exact parseUint_bound ‹_›

theorem parseDegree_bound {s : List Char} {d : Degree} (h : parseDegree s = some d) : goUint d.value := by
  unfold parseDegree at h
  cases hp : parseSyms parseDegreeSymbols s with
  | fail => simp [hp] at h
  | ok c n =>
    simp only [hp] at h
    rw [(coerce_degree_some h).1]
    exact parseSyms_bound _ s c n hp

theorem dyn_mem {d : Dyn} (h : d ≠ .unknown) : d ∈ sixDyns := by cases d <;> simp_all [sixDyns]

theorem Rat'.valid_iff {r : Rat'} : r.valid = true ↔ 0 < r.num ∧ 0 < r.den := by
  simp only [Rat'.valid, Bool.and_eq_true, decide_eq_true_eq]
  omega

theorem decodeDegree_ok {s : String} {d : Degree} : decodeDegree s = .ok d ↔ parseDegree s.toList = some d := by
  unfold decodeDegree; split <;> simp [*]

theorem decodeRat_ok {s : String} {r : Rat'} : decodeRat s = .ok r ↔ parseRat s.toList = some r ∧ r.valid = true := by
  unfold decodeRat
  split
  · simp [*]
  · rename_i r' hp
    rw [hp]
    split <;> rename_i hv
    · simp only [Except.ok.injEq, Option.some.injEq]; exact ⟨fun e => ⟨e, e ▸ hv⟩, And.left⟩
    · simp only [reduceCtorEq, Option.some.injEq, false_iff]; rintro ⟨rfl, h⟩; exact hv h

theorem decodeBPM_ok {s : String} {n : Nat} : decodeBPM s = .ok n ↔ parseUint s.toList = some n ∧ 0 < n := by
  unfold decodeBPM; split <;> simp_all
  omega

theorem decodeDyn_ok {s : String} {d : Dyn} : decodeDyn s = .ok d ↔ Dyn.ofString s = d ∧ d ≠ .unknown := by
  unfold decodeDyn
  split
  · rename_i h; simp only [reduceCtorEq, false_iff, h]; rintro ⟨rfl, h'⟩; exact h' rfl
  · rename_i h; simp only [Except.ok.injEq]; exact ⟨fun e => ⟨e, e ▸ h⟩, And.left⟩

theorem decodeKey_ok {s : String} {k : Key} : decodeKey s = .ok k ↔ parseKey s.toList = some k := by
  unfold decodeKey; split <;> simp [*]

theorem decodeDegree_valid {s : String} {d : Degree} (h : decodeDegree s = .ok d) : d.valid = true ∧ goUint d.value :=
  ⟨parse_valid _ _ (decodeDegree_ok.mp h), parseDegree_bound (decodeDegree_ok.mp h)⟩

theorem decodeRat_valid {s : String} {r : Rat'} (h : decodeRat s = .ok r) : r.valid = true ∧ goUint r.num ∧ goUint r.den :=
  ⟨(decodeRat_ok.mp h).2, parseRat_bound (decodeRat_ok.mp h).1⟩

theorem decodeBPM_valid {s : String} {n : Nat} (h : decodeBPM s = .ok n) : 0 < n ∧ goUint n :=
  ⟨(decodeBPM_ok.mp h).2, parseUint_bound (decodeBPM_ok.mp h).1⟩

theorem decodeDyn_valid {s : String} {d : Dyn} (h : decodeDyn s = .ok d) : d ∈ sixDyns := dyn_mem (decodeDyn_ok.mp h).2

theorem decodeKey_valid {s : String} {k : Key} (h : decodeKey s = .ok k) : k ∈ properKeys :=
  parseKey_proper (decodeKey_ok.mp h)

theorem decodeDegree_safe (s : String) : Safe (decodeDegree s) := by
  unfold decodeDegree
  split
  · exact safe_ok _
  · exact safe_err rfl

theorem decodeRat_safe (s : String) : Safe (decodeRat s) := by
  unfold decodeRat
  split
  · exact safe_err rfl
  · split
    · exact safe_ok _
    · exact safe_err rfl

theorem decodeBPM_safe (s : String) : Safe (decodeBPM s) := by
  unfold decodeBPM
  split
  · exact safe_err rfl
  · exact safe_err rfl
  · exact safe_ok _

theorem decodeDyn_safe (s : String) : Safe (decodeDyn s) := by
  unfold decodeDyn
  split
  · exact safe_err rfl
  · exact safe_ok _

theorem decodeKey_safe (s : String) : Safe (decodeKey s) := by
  unfold decodeKey
  split
  · exact safe_ok _
  · exact safe_err rfl

theorem decodeChord_ok {c : RawChord} {x : ChordIn} : decodeChord c = .ok x ↔
    (match c.degree with | none => x.degree = ⟨0, .unknown⟩ | some s => decodeDegree s = .ok x.degree) ∧
    x.name = c.name ∧ optM c.base decodeDegree = .ok x.base := by
  obtain ⟨d, n, b⟩ := x
  unfold decodeChord
  simp only [bind_ok_iff, Except.ok.injEq, ChordIn.mk.injEq]
  constructor
  · rintro ⟨d', hd, b', hb, rfl, rfl, rfl⟩
    exact ⟨by split <;> simp_all, rfl, hb⟩
  · rintro ⟨hd, rfl, hb⟩
    exact ⟨d, by split <;> simp_all, b, hb, rfl, rfl, rfl⟩

/-- what `decodeInstance r = .ok i` says: every field of `i` is its scalar decoder's reading of that field of `r` -/
structure Decoded (r : RawInstance) (i : Instance) : Prop where
  chord : optM r.chord decodeChord = .ok i.chord
  values : r.values.mapM decodeRat = .ok i.values
  bpm : optM r.bpm decodeBPM = .ok i.bpm
  velocity : optM r.velocity decodeDyn = .ok i.velocity
  meter : optM r.meter decodeRat = .ok i.meter
  key : optM r.key decodeKey = .ok i.key
  mta : i.mta = r.mta

theorem decodeInstance_ok {r : RawInstance} {i : Instance} : decodeInstance r = .ok i ↔ Decoded r i := by
  obtain ⟨chord, values, bpm, velocity, meter, key, mta⟩ := i
  unfold decodeInstance
  simp only [bind_ok_iff, Except.ok.injEq, Instance.mk.injEq]
  constructor
  · rintro ⟨_, h1, _, h2, _, h3, _, h4, _, h5, _, h6, rfl, rfl, rfl, rfl, rfl, rfl, rfl⟩
    exact ⟨h1, h2, h3, h4, h5, h6, rfl⟩
  · rintro ⟨h1, h2, h3, h4, h5, h6, rfl⟩
    exact ⟨_, h1, _, h2, _, h3, _, h4, _, h5, _, h6, rfl, rfl, rfl, rfl, rfl, rfl, rfl⟩

/-- **print then read = identity**, for every valid instance -/
theorem instance_roundtrip (i : Instance) (h : ValidInstance i) : decodeInstance (encodeInstance i) = .ok i := by
  have rat : ∀ r : Rat', r.valid = true ∧ goUint r.num ∧ goUint r.den → decodeRat r.str = .ok r :=
    fun r h => decodeRat_ok.mpr ⟨rat_roundtrip r.num r.den h.2.1 h.2.2, h.1⟩
  have deg : ∀ d : Degree, d.valid = true ∧ goUint d.value → decodeDegree d.str = .ok d :=
    fun d h => decodeDegree_ok.mpr (degree_roundtrip d h.1 h.2)
  refine decodeInstance_ok.mpr ⟨optM_map_ok fun c hc => ?_, ?_, optM_map_ok fun b hb => bpm_roundtrip b (h.bpm b hb).1 (h.bpm b hb).2,
    optM_map_ok fun v hv => dyn_roundtrip v (h.velocity v hv), optM_map_ok fun m hm => rat m (h.meter m hm),
    optM_map_ok fun k hk => key_roundtrip k (h.key k hk), rfl⟩
  · exact decodeChord_ok.mpr ⟨deg _ (h.degree c hc), rfl, optM_map_ok fun b hb => deg b (h.base c b hc hb)⟩
  · rw [encodeInstance, List.mapM_map]
    exact mapM_ok_of_forall fun v hv => rat v (h.values v hv)

end Crd
