import Crd.Model.Parser
import Crd.Lemmas.LeftRec

/-!
# Soundness of the hand-written parser: whatever it accepts is a sentence of the spelled-out language, and the
AST it builds lists exactly the tokens read (tree faithfulness)
-/
namespace Crd
open Spec

def kinds (ts : List Tok) : List TK := ts.map (·.k)

/-- what the AST records of a token: its kind, and its text when the kind carries one -/
def Tok.sig (t : Tok) : TK × List Char :=
  (t.k, if t.k = .SYLLABLE ∨ t.k = .NUMBER ∨ t.k = .SHARP ∨ t.k = .FLAT ∨ t.k = .SYMBOL ∨ t.k = .METADATA then t.v else [])

def stripU (ts : List Tok) : List Tok := ts.filter (fun t => t.k != .UNDERSCORE)

def sigs (ts : List Tok) : List (TK × List Char) := (stripU ts).map Tok.sig

def rDegree (d : DegreeN) : List (TK × List Char) := d.head.sig :: (d.acc.map Tok.sig).toList
def rValue (v : ValueN) : List (TK × List Char) :=
  v.num.sig :: (match v.den with | none => [] | some d => [(.SLASH, []), d.sig])
def rValues : List ValueN → List (TK × List Char)
  | [] => []
  | [v] => rValue v
  | v :: vs => rValue v ++ (.COMMA, []) :: rValues vs
def rKV (m : MetaKV) : List (TK × List Char) := [m.key.sig, (.EQUAL, []), m.value.sig]
def rKVs : List MetaKV → List (TK × List Char)
  | [] => []
  | [m] => rKV m
  | m :: ms => rKV m ++ (.COMMA, []) :: rKVs ms
def rMeta : Option (List MetaKV) → List (TK × List Char)
  | none => []
  | some ms => (.LCBRA, []) :: rKVs ms ++ [(.RCBRA, [])]
def rBase : Option DegreeN → List (TK × List Char)
  | none => []
  | some bd => (.SLASH, []) :: rDegree bd
def rItem : Item → List (TK × List Char)
  | .chord d s b vs m =>
    rDegree d ++ (s.map Tok.sig).toList ++ rBase b ++
      (.LBRA, []) :: rValues vs ++ (.RBRA, []) :: rMeta m
  | .rest vs m => (.REST, []) :: (.LBRA, []) :: rValues vs ++ (.RBRA, []) :: rMeta m

@[simp] theorem kinds_nil : kinds [] = [] := rfl
@[simp] theorem kinds_cons (t : Tok) (ts : List Tok) : kinds (t :: ts) = t.k :: kinds ts := rfl
@[simp] theorem kinds_app (a b : List Tok) : kinds (a ++ b) = kinds a ++ kinds b := by simp [kinds]

@[simp] theorem sigs_nil : sigs [] = [] := rfl
theorem sigs_cons (t : Tok) (ts : List Tok) :
    sigs (t :: ts) = if t.k = .UNDERSCORE then sigs ts else t.sig :: sigs ts := by
  by_cases h : t.k = .UNDERSCORE <;> simp [sigs, stripU, h]
@[simp] theorem sigs_append (a b : List Tok) : sigs (a ++ b) = sigs a ++ sigs b := by simp [sigs, stripU]

theorem rValues_cons (v : ValueN) (vs : List ValueN) :
    rValues (v :: vs) = rValue v ++ vs.flatMap fun w => (.COMMA, []) :: rValue w := by
  induction vs generalizing v with
  | nil => simp [rValues]
  | cons w vs ih => simp [rValues, ih]

theorem rKVs_cons (m : MetaKV) (ms : List MetaKV) :
    rKVs (m :: ms) = rKV m ++ ms.flatMap fun w => (.COMMA, []) :: rKV w := by
  induction ms generalizing m with
  | nil => simp [rKVs]
  | cons w ms ih => simp [rKVs, ih]

/-- whatever `p` accepts is a prefix of the input whose kinds are in `L` and whose tokens the result renders -/
def Sound {α : Type} (p : List Tok → Option (α × List Tok)) (L : List TK → Prop) (ren : α → List (TK × List Char)) : Prop :=
  ∀ ts v r, p ts = some (v, r) → (∃ ks, L ks ∧ kinds ts = ks ++ kinds r) ∧ sigs ts = ren v ++ sigs r

/-- `(sep x)*`: the right-recursive view of what follows the first member of a list nonterminal -/
inductive Rep (sep : List TK) (L : List TK → Prop) : List TK → Prop
  | nil : Rep sep L []
  | cons (v rest) (h1 : L v) (h2 : Rep sep L rest) : Rep sep L (sep ++ v ++ rest)

theorem Rep.snoc {sep : List TK} {L : List TK → Prop} {t v : List TK} (ht : Rep sep L t) (hv : L v) :
    Rep sep L (t ++ sep ++ v) := by
  induction ht with
  | nil => simpa using Rep.cons v [] hv Rep.nil
  | cons v' rest h1 _ ih => simpa [List.append_assoc] using Rep.cons v' _ h1 ih

theorem leftRec_iff_rep {sep : List TK} {L : List TK → Prop} {ts : List TK} :
    LeftRec sep L ts ↔ ∃ v t, ts = v ++ t ∧ L v ∧ Rep sep L t := by
  constructor
  · intro h
    induction h with
    | one v hv => exact ⟨v, [], by simp, hv, .nil⟩
    | more vs v _ hv ih =>
      obtain ⟨v0, t, rfl, h0, ht⟩ := ih
      exact ⟨v0, t ++ sep ++ v, by simp, h0, ht.snoc hv⟩
  · rintro ⟨v, t, rfl, hv, ht⟩
    have h := LeftRec.one (sep := sep) v hv
    generalize v = vs at h
    induction ht generalizing vs with
    | nil => simpa using h
    | cons v rest h1 _ ih => simpa using ih _ (.more vs v h h1)

theorem lvalues_iff {ts : List TK} : LValues ts ↔ ∃ v t, ts = v ++ t ∧ LValue v ∧ Rep [.COMMA] LValue t :=
  lvalues_leftRec.trans leftRec_iff_rep

theorem lmetaint_iff {ts : List TK} : LMetaInt ts ↔
    ∃ m t, ts = m ++ t ∧ m = [.METADATA, .EQUAL, .METADATA] ∧ Rep [.COMMA] (· = [.METADATA, .EQUAL, .METADATA]) t :=
  lmetaint_leftRec.trans leftRec_iff_rep

theorem llist_iff {ts : List TK} : LList ts ↔ ∃ i t, ts = i ++ t ∧ LItem i ∧ Rep [] LItem t :=
  llist_leftRec.trans leftRec_iff_rep

/-- the loop of `pValuesTail` and `pMetaTail` for any member parser -/
def sepTail {α : Type} (p : List Tok → Option (α × List Tok)) : Nat → List Tok → List α → Option (List α × List Tok)
  | 0, _, _ => none
  | f+1, ts, acc =>
    match ts with
    | c :: r => if c.k = .COMMA then
        match p r with
        | some (v, r') => sepTail p f r' (acc ++ [v])
        | none => none
      else some (acc, ts)
    | [] => some (acc, [])

theorem pValuesTail_eq : pValuesTail = sepTail pValue := by
  funext f; induction f with
  | zero => rfl
  | succ f ih =>
    funext ts acc
    rcases ts with _ | ⟨c, r⟩ <;> simp only [pValuesTail, sepTail, ih]
    cases pValue r <;> rfl

theorem pMetaTail_eq : pMetaTail = sepTail pMetadata := by
  funext f; induction f with
  | zero => rfl
  | succ f ih =>
    funext ts acc
    rcases ts with _ | ⟨c, r⟩ <;> simp only [pMetaTail, sepTail, ih]
    cases pMetadata r <;> rfl

theorem sepTail_sound {α : Type} {p : List Tok → Option (α × List Tok)} {L ren} (hp : Sound p L ren)
    {f : Nat} {ts : List Tok} {acc vs : List α} {r : List Tok} : sepTail p f ts acc = some (vs, r) →
      ∃ more, vs = acc ++ more ∧ (∃ ks, Rep [.COMMA] L ks ∧ kinds ts = ks ++ kinds r) ∧
        sigs ts = (more.flatMap fun v => (.COMMA, []) :: ren v) ++ sigs r := by
  fun_induction sepTail p f ts acc <;> intro h <;> simp_all only [reduceCtorEq, Option.some.injEq, Prod.mk.injEq]
  -- a comma and a member, `hv : p _ = some (v, r')`, then the loop again on `r'` (`ih`); the other two branches stop
  -- the loop and read nothing
  case case2 v r' hv ih =>
    have hc := ‹_ = TK.COMMA›
    obtain ⟨⟨kv, hlv, e1⟩, s1⟩ := hp _ _ _ hv
    obtain ⟨more, rfl, ⟨kt, hlt, e2⟩, s2⟩ := ih trivial
    exact ⟨v :: more, by simp, ⟨_, .cons kv kt hlv hlt, by simp [hc, e1, e2]⟩, by simp [sigs_cons, Tok.sig, hc, s1, s2]⟩
  all_goals exact ⟨[], by simp, ⟨[], .nil, by simp [← h.2]⟩, by simp [← h.2]⟩

theorem ldegree_iff {ks : List TK} : LDegree ks ↔
    ∃ h, (h = .SYLLABLE ∨ h = .NUMBER) ∧ (ks = [h] ∨ ∃ a, (a = .SHARP ∨ a = .FLAT) ∧ ks = [h, a]) := by
  constructor
  · intro h; cases h <;> simp
  · rintro ⟨h, rfl | rfl, rfl | ⟨a, rfl | rfl, rfl⟩⟩ <;> constructor

theorem pDegree_sound : Sound pDegree LDegree rDegree := by
  intro ts v r
  fun_cases pDegree ts <;> intro h <;> cases h
  -- head with accidental
  case case1 =>
    have ht := ‹_ = TK.SYLLABLE ∨ _›
    have ha := ‹_ = TK.SHARP ∨ _›
    refine ⟨⟨_, ldegree_iff.mpr ⟨_, ht, .inr ⟨_, ha, rfl⟩⟩, rfl⟩, ?_⟩
    rcases ht with ht | ht <;> rcases ha with ha | ha <;> simp [sigs_cons, Tok.sig, rDegree, *]
  -- head alone, before another token or at the end
  all_goals
    have ht := ‹_ ∨ _›
    refine ⟨⟨_, ldegree_iff.mpr ⟨_, ht, .inl rfl⟩, rfl⟩, ?_⟩
    rcases ht with ht | ht <;> simp [sigs_cons, Tok.sig, rDegree, *]

theorem pValue_sound : Sound pValue LValue rValue := by
  intro ts v r
  fun_cases pValue ts <;> intro h <;> cases h
  -- `n / d`; in the other three branches `n` alone, before a token that is not `/` or at the end
  case case1 => exact ⟨⟨_, .frac, by simp [*]⟩, by simp [sigs_cons, Tok.sig, rValue, *]⟩
  all_goals exact ⟨⟨_, .whole, by simp [*]⟩, by simp [sigs_cons, Tok.sig, rValue, *]⟩

theorem pMetadata_sound : Sound pMetadata (· = [.METADATA, .EQUAL, .METADATA]) rKV := by
  intro ts v r
  fun_cases pMetadata ts <;> intro h <;> cases h
  next h => exact ⟨⟨_, rfl, by simp [h]⟩, by simp [sigs_cons, Tok.sig, rKV, h]⟩

theorem pSymbol_sound : Sound pSymbol LSymbol fun s => (s.map Tok.sig).toList := by
  intro ts v r
  fun_cases pSymbol ts <;> intro h <;> cases h
  -- a SYMBOL; `_` and a SYMBOL; otherwise no symbol and nothing read
  case case1 => exact ⟨⟨_, .plain, by simp [*]⟩, by simp [sigs_cons, Tok.sig, *]⟩
  case case2 => exact ⟨⟨_, .under, by simp [*]⟩, by simp [sigs_cons, Tok.sig, *]⟩
  all_goals exact ⟨⟨_, .none, rfl⟩, rfl⟩

theorem pBase_sound : Sound pBase LBase rBase := by
  intro ts v r
  fun_cases pBase ts <;> intro h <;> cases h
  -- `/` and a degree; otherwise no bass and nothing read
  case case1 =>
    have hs := ‹_ = TK.SLASH›
    obtain ⟨⟨kd, hld, e⟩, sd⟩ := pDegree_sound _ _ _ ‹pDegree _ = some _›
    exact ⟨⟨_, .slash kd hld, by simp [hs, e]⟩, by simp [sigs_cons, Tok.sig, rBase, hs, sd]⟩
  all_goals exact ⟨⟨_, .none, rfl⟩, rfl⟩

theorem pValues_sound : Sound pValues LValues rValues := by
  intro ts vs r h
  simp only [pValues, pValuesTail_eq] at h
  split at h
  · next v r1 hv =>
    obtain ⟨⟨kv, hlv, e1⟩, s1⟩ := pValue_sound _ _ _ hv
    obtain ⟨more, rfl, ⟨kt, hlt, e2⟩, s2⟩ := sepTail_sound pValue_sound h
    exact ⟨⟨_, lvalues_iff.mpr ⟨kv, kt, rfl, hlv, hlt⟩, by simp [e1, e2]⟩, by simp [rValues_cons, s1, s2]⟩
  · cases h

theorem pMeta_sound : Sound pMeta LMeta rMeta := by
  intro ts v r
  fun_cases pMeta ts <;> intro h <;> simp_all only [reduceCtorEq, ↓reduceIte, Option.some.injEq, Prod.mk.injEq]
  -- `{`, a first pair, the loop, `}`; otherwise no metadata and nothing read
  case case1 =>
    have hl := ‹_ = TK.LCBRA›
    have hc := ‹_ = TK.RCBRA›
    have ht := ‹pMetaTail _ _ _ = some _›
    rw [pMetaTail_eq] at ht
    obtain ⟨⟨_, rfl, e1⟩, s1⟩ := pMetadata_sound _ _ _ ‹pMetadata _ = some _›
    obtain ⟨more, rfl, ⟨kt, hlt, e2⟩, s2⟩ := sepTail_sound pMetadata_sound ht
    exact ⟨⟨_, .some _ (lmetaint_iff.mpr ⟨_, kt, rfl, rfl, hlt⟩), by simp [hl, hc, e1, e2]⟩,
      by simp [sigs_cons, Tok.sig, rMeta, rKVs_cons, hl, hc, ← h.1, s1, s2]⟩
  all_goals exact ⟨⟨_, .none, rfl⟩, by simp [← h.1, rMeta]⟩

theorem pBody_sound {ts : List Tok} {vs : List ValueN} {m : Option (List MetaKV)} {r : List Tok}
    (h : pBody ts = some (vs, m, r)) :
    (∃ kv km, LValues kv ∧ LMeta km ∧ kinds ts = .LBRA :: kv ++ .RBRA :: km ++ kinds r) ∧
      sigs ts = (.LBRA, []) :: rValues vs ++ (.RBRA, []) :: rMeta m ++ sigs r := by
  revert h
  fun_cases pBody ts <;> intro h <;> simp_all only [reduceCtorEq, Option.some.injEq, Prod.mk.injEq]
  -- the one branch that accepts: `[`, values, `]`, metadata
  next =>
    obtain ⟨⟨kv, hlv, e1⟩, s1⟩ := pValues_sound _ _ _ ‹pValues _ = some _›
    obtain ⟨⟨km, hlm, e2⟩, s2⟩ := pMeta_sound _ _ _ ‹pMeta _ = some _›
    exact ⟨⟨kv, km, hlv, hlm, by simp_all⟩, by simp_all [sigs_cons, Tok.sig]⟩

theorem pItem_sound : Sound pItem LItem rItem := by
  intro ts v r
  fun_cases pItem ts <;> intro h <;> simp_all only [reduceCtorEq, Option.some.injEq, Prod.mk.injEq]
  -- a rest: `R` and a body
  case case1 =>
    have hR := ‹_ = TK.REST›
    obtain ⟨⟨kv, km, hlv, hlm, e⟩, s⟩ := pBody_sound ‹pBody _ = some _›
    exact ⟨⟨_, .rest kv km hlv hlm, by simp [hR, e]⟩, by simp [← h.1, sigs_cons, Tok.sig, rItem, hR, s]⟩
  -- a chord: degree, symbol, bass and body, each on what the one before left
  case case3 =>
    obtain ⟨⟨kd, hld, e1⟩, s1⟩ := pDegree_sound _ _ _ ‹pDegree _ = some _›
    obtain ⟨⟨ks, hls, e2⟩, s2⟩ := pSymbol_sound _ _ _ ‹pSymbol _ = some _›
    obtain ⟨⟨kb, hlb, e3⟩, s3⟩ := pBase_sound _ _ _ ‹pBase _ = some _›
    obtain ⟨⟨kv, km, hlv, hlm, e4⟩, s4⟩ := pBody_sound ‹pBody _ = some _›
    exact ⟨⟨_, .chord kd ks kb kv km hld hls hlb hlv hlm, by simp [e1, e2, e3, e4]⟩,
      by simp [← h.1, rItem, s1, s2, s3, s4]⟩

theorem pItems_sound (f : Nat) (ts : List Tok) (acc items : List Item) : pItems f ts acc = some items →
    ∃ more, items = acc ++ more ∧ items ≠ [] ∧ Rep [] LItem (kinds ts) ∧ sigs ts = more.flatMap rItem := by
  fun_induction pItems f ts acc <;> intro h <;> simp_all only [reduceCtorEq, Option.some.injEq]
  -- the end of the tokens, with items read
  case case3 => exact ⟨[], by simp, fun he => ‹¬_ = true› (by simp [he]), .nil, rfl⟩
  -- an item, `hit : pItem ts = some (it, r)`, and the loop again on `r` (`ih`)
  case case4 it r hit _ ih =>
    obtain ⟨⟨ki, hli, e⟩, s⟩ := pItem_sound _ _ _ hit
    obtain ⟨more, rfl, hne, hl, hs⟩ := ih trivial
    exact ⟨it :: more, by simp, hne, by simpa [e] using Rep.cons ki _ hli hl, by simp [s, hs]⟩

/-- **soundness and tree faithfulness of the parser**: an accepted token list is a sentence of the chord
language, and the tree lists, in order, exactly the tokens read — kind and text of every root, accidental,
symbol, bass, numerator, denominator, metadata key and value; only the optional `_` is not recorded -/
theorem parseToks_sound (ts : List Tok) (items : List Item) (h : parseToks ts = some items) :
    LList (kinds ts) ∧ items ≠ [] ∧ sigs ts = items.flatMap rItem := by
  obtain ⟨more, rfl, hne, hl, hs⟩ := pItems_sound _ ts [] items h
  refine ⟨?_, hne, hs⟩
  generalize hk : kinds ts = ks at hl
  cases hl with
  | nil => obtain rfl : ts = [] := by simpa [kinds] using hk
           cases h
  | cons i rest h1 h2 => exact llist_iff.mpr ⟨i, rest, by simp, h1, h2⟩

end Crd
