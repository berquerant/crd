import Crd.Lemmas.Piece

/-!
# Playing the same instances in another key shifts every pitch by the distance between the tonics (C05)
-/
namespace Crd

theorem u8_congr (a b : Int) (h : a % 256 = b % 256) : u8 a = u8 b := by
  unfold u8; rw [emod_eq, emod_eq, h]

/-- the keys of a chord in key `k2` are those in key `k1`, each shifted by `tonic k2 − tonic k1` (in the byte
arithmetic the code uses; inside the MIDI range: plain addition) -/
theorem applyChord_shift (d : Dict) (k1 k2 : Key) (c : ChordIn) (ks1 : List Nat) (t1 t2 : Int)
    (h1 : applyChord d k1 c = .ok ks1) (hk1 : k1.semitone? = some t1) (hk2 : k2.semitone? = some t2) :
    applyChord d k2 c = .ok (ks1.map fun (x : Nat) => u8 ((x : Int) + (t2 - t1))) := by
  obtain ⟨attrs, ks, cd, b, ss, v, rfl⟩ := applyChord_ok.1 h1
  obtain rfl : t1 = ks := Option.some.inj (hk1.symm.trans v.tonic)
  refine applyChord_ok.2 ⟨attrs, t2, cd, b, ss, { v with tonic := hk2 }, ?_⟩
  simp only [List.map_cons, List.map_map, List.cons.injEq]
  refine ⟨?_, List.map_congr_left fun s _ => ?_⟩
  · apply u8_congr; simp only [u8_cast, emod_eq]; omega
  · apply u8_congr; simp only [u8_cast, emod_eq]; omega

def shiftEv (δ : Int) : Ev → Ev
  | .noteOn ch k v => .noteOn ch (u8 ((k : Int) + δ)) v
  | .noteOff ch k => .noteOff ch (u8 ((k : Int) + δ))
  | e => e

def shiftLog (δ : Int) (e : LogE) : LogE := (e.1, e.2.1, shiftEv δ e.2.2)

theorem fixedEvs_shift (δ : Int) (mk : Nat → Ev) (hmk : ∀ k, shiftEv δ (mk k) = mk (u8 ((k : Int) + δ)))
    (T i0 : Nat) (ks : List Nat) :
    (fixedEvs mk T i0 ks).map (shiftLog δ) = fixedEvs mk T i0 (ks.map fun (x : Nat) => u8 ((x : Int) + δ)) := by
  simp [fixedEvs_eq_map, List.zipIdx_map, shiftLog, hmk]

def KeyFree (is : List Instance) : Prop := ∀ i ∈ is, i.key = none

/-- setting events carry no pitch -/
theorem settings_shift (δ : Int) (first : Bool) (T : Nat) (i : Instance) :
    (instSettings first T i).map (shiftLog δ) = instSettings first T i := by
  conv => rhs; rw [← List.map_id (instSettings first T i)]
  refine List.map_congr_left fun e he => ?_
  obtain ⟨_, _, c, _, ev, hc, rfl⟩ := mem_instSettings he
  cases c <;> simp [WCall.metaEv] at hc <;> subst hc <;> rfl

/-- **transposition**: the timeline of key-change-free instances played from key `k2` is the timeline played from
`k1` with every note key shifted by the distance between the tonics — same ticks, same order, same routing, same
velocities, same setting events; nothing else changes -/
theorem pieceLog_transpose (τ : List Rat' → Nat) (d : Dict) (k1 k2 : Key) (t1 t2 : Int)
    (hk1 : k1.semitone? = some t1) (hk2 : k2.semitone? = some t2) {first : Bool} :
    ∀ (is : List Instance), KeyFree is → ∀ (T : Nat) (v0 : Dyn),
      (∀ i ∈ is, ∀ c, i.chord = some c → ∃ ks, applyChord d k1 c = .ok ks) →
      pieceLog τ d T first k2 v0 is = (pieceLog τ d T first k1 v0 is).map (shiftLog (t2 - t1)) := by
  intro is
  induction is generalizing first with
  | nil => intro _ T v0 _; simp [pieceLog]
  | cons i is ih =>
    intro hkf T v0 hok
    have hik : i.key = none := hkf i (by simp)
    have hkeys : chordKeys d k2 i = (chordKeys d k1 i).map fun (x : Nat) => u8 ((x : Int) + (t2 - t1)) := by
      cases hc : i.chord with
      | none => simp [chordKeys_rest hc]
      | some c =>
        obtain ⟨ks, hks⟩ := hok i (by simp) c hc
        rw [chordKeys_chord hc hks, chordKeys_chord hc (applyChord_shift d k1 k2 c ks t1 t2 hks hk1 hk2)]
    rw [pieceLog_cons, pieceLog_cons]
    simp only [hik, Option.getD_none, List.map_append, settings_shift, instOns_eq, instOffs_eq, hkeys,
      ih (fun x hx => hkf x (by simp [hx])) _ _ (fun x hx => hok x (by simp [hx])),
      fixedEvs_shift (t2 - t1) (fun x => Ev.noteOn 0 x ((i.velocity.getD v0).velocity % 256)) (fun _ => rfl),
      fixedEvs_shift (t2 - t1) (fun x => Ev.noteOff 0 x) (fun _ => rfl)]

end Crd
