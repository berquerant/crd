import Crd.Lemmas.SmfFile
import Crd.Lemmas.Dict
import Crd.Lemmas.Scale
import Crd.Lemmas.Piece

/-!
# Every event `crd write` produces is one the strict reader accepts, and its bytes are bytes
-/
namespace Crd
open Crd.Spec Crd.Generated

theorem metaMsg_bytes (typ : Nat) (data : Bytes) (ht : typ < 256) (hd : ∀ b ∈ data, b < 256) :
    ∀ b ∈ metaMsg typ data, b < 256 := by
  simp only [metaMsg, List.forall_mem_append, List.mem_cons, List.mem_nil_iff, or_false, forall_eq_or_imp, forall_eq]
  exact ⟨⟨⟨by decide, ht⟩, vlq_bytes' _⟩, hd⟩

theorem tempoPayload_bytes (bpm : Nat) : ∀ b ∈ tempoPayload bpm, b < 256 := by
  unfold tempoPayload
  simp only
  split
  · exact be_bytes
  · decide

theorem tempoPayload_length (bpm : Nat) : (tempoPayload bpm).length = 3 := by
  unfold tempoPayload
  simp only
  split <;> simp [Crd.be]

/-- the loop counts halvings -/
theorem dec2binLoop_le (f dec bin : Nat) : dec2binLoop f dec bin ≤ bin + dec / 2 := by
  induction f generalizing dec bin with
  | zero => simp [dec2binLoop]
  | succ f ih =>
    rw [dec2binLoop]
    split
    · have := ih (dec / 2) (bin + 1); omega
    · omega

theorem dec2binDenom_le (d : Nat) : dec2binDenom d ≤ d := by
  unfold dec2binDenom
  split
  · omega
  · have := dec2binLoop_le d d 0; omega

/-- the events a MIDI file can hold: a text of at most 0x0FFFFFFF UTF-8 bytes (the longest meta event), a meter whose
numerator and denominator are bytes (`meterCall` reduces them mod 256), a key signature of at most seven accidentals;
any other event -/
def Ev.Fits : Ev → Prop
  | .seqName s | .instrument s | .text s | .lyric s | .marker s => (strBytes s).length ≤ 0x0FFFFFFF
  | .meter n d => n < 256 ∧ d < 256
  | .keySig _ _ num _ => num ≤ 7
  | _ => True

theorem Ev.Fits.bytes {e : Ev} (h : e.Fits) : ∀ b ∈ e.bytes, b < 256 := by
  cases e
  case program | noteOn | noteOff =>
    simp only [Ev.bytes, List.mem_cons, List.mem_nil_iff, or_false, forall_eq_or_imp, forall_eq]; omega
  case tempo bpm => exact metaMsg_bytes _ _ (by decide) (tempoPayload_bytes bpm)
  case meter n d =>
    obtain ⟨hn, hd⟩ := h
    have : (if d = 0 then 1 else d) < 256 := by split <;> omega
    refine metaMsg_bytes _ _ (by decide) ?_
    simp only [List.mem_cons, List.mem_nil_iff, or_false, forall_eq_or_imp, forall_eq]
    exact ⟨hn, Nat.lt_of_le_of_lt (dec2binDenom_le _) this, by decide, by decide⟩
  case keySig k ma n fl =>
    refine metaMsg_bytes 0x59 (keySigData ma n fl) (by decide) ?_
    simp only [keySigData, List.mem_cons, List.mem_nil_iff, or_false, forall_eq_or_imp, forall_eq]
    constructor
    · generalize (if fl = true then _ else _ : Int) = x
      have : x.emod 256 < 256 := Int.emod_lt_of_pos x (by decide)
      omega
    · split <;> decide
  case close => decide
  all_goals exact metaMsg_bytes _ _ (by decide) (strBytes_bytes _)

theorem keySigData_ok : ∀ num, num ≤ 7 → ∀ isMajor isFlat,
    ((keySigData isMajor num isFlat)[0]! ≤ 7 ∨ 249 ≤ (keySigData isMajor num isFlat)[0]!) ∧
    (keySigData isMajor num isFlat)[1]! ≤ 1 := by decide

theorem Ev.Fits.evOK {e : Ev} (h : e.Fits) : EvOK e := by
  cases e
  case tempo bpm => simp [EvOK, Ev.metaParts, tempoPayload_length, metaLenOK]
  case meter n d => simp [EvOK, Ev.metaParts, metaLenOK]
  case keySig k ma n fl => exact ⟨by simp [keySigData], by simp [keySigData, metaLenOK], fun _ => keySigData_ok n h ma fl⟩
  case close => simp [EvOK, Ev.metaParts, metaLenOK]
  case program | noteOn | noteOff => trivial
  all_goals exact ⟨h, by simp [metaLenOK], by simp⟩

/-- every text of the piece fits a meta event (shorter than 2^28 bytes in UTF-8) -/
def TextsFit (is : List Instance) : Prop :=
  ∀ i ∈ is, ∀ m, i.mta = some m → ∀ kv ∈ m, (strBytes kv.2).length ≤ 0x0FFFFFFF

theorem metaGet_fits (m : List (String × String)) (k : String) (h : ∀ kv ∈ m, (strBytes kv.2).length ≤ 0x0FFFFFFF) :
    (strBytes (metaGet m k)).length ≤ 0x0FFFFFFF := by
  unfold metaGet
  cases hl : lookupLast k m with
  | none => simp [strBytes]
  | some v => simpa using h (k, v) (lookupLast_mem k m v hl)

theorem textCalls_fits {m : List (String × String)} (h : ∀ kv ∈ m, (strBytes kv.2).length ≤ 0x0FFFFFFF) :
    ∀ c ∈ textCalls m, ∀ e, c.metaEv = some e → e.Fits := by
  intro c hc e he
  simp only [textCalls, List.mem_append] at hc
  rcases hc with (hc | hc) | hc <;> (split at hc <;> simp at hc <;> subst hc <;> simp [WCall.metaEv] at he <;> subst he) <;>
    exact metaGet_fits m _ h

theorem keySigCall_fits (k : Key) (c : WCall) (h : keySigCall k = some c) : ∀ e, c.metaEv = some e → e.Fits := by
  intro e he
  simp only [keySigCall, Option.map_eq_some_iff] at h
  obtain ⟨s, hs, rfl⟩ := h
  cases he
  have := (newScale_accidentals hs).1
  have : flatSequence.length = 7 := by decide
  show (s.flat + s.sharp) % 256 ≤ 7
  omega

theorem settings_fits (first : Bool) (i : Instance) (cs : List WCall) (h : settingsCalls first i = some cs)
    (ht : ∀ m, i.mta = some m → ∀ kv ∈ m, (strBytes kv.2).length ≤ 0x0FFFFFFF) :
    ∀ c ∈ cs, ∀ e, c.metaEv = some e → e.Fits := by
  intro c hc e he
  rcases mem_settingsCalls h hc with ⟨b, rfl⟩ | ⟨r, rfl⟩ | ⟨k, hk⟩ | hx
  · cases he; trivial
  · cases he; exact ⟨Nat.mod_lt _ (by decide), Nat.mod_lt _ (by decide)⟩
  · exact keySigCall_fits k c hk e he
  · refine textCalls_fits ?_ c hx e he
    cases hm : i.mta with
    | none => simp
    | some m => exact ht m hm

theorem pieceLog_fits (τ : List Rat' → Nat) (d : Dict) {is : List Instance} (ht : TextsFit is) {T : Nat} {first : Bool}
    {k0 : Key} {v0 : Dyn} : ∀ e ∈ pieceLog τ d T first k0 v0 is, e.2.2.Fits := by
  intro e he
  rcases mem_pieceLog he with ⟨i, hi, fst, cs, hs, c, hc, hce, -⟩ | ⟨n, k, v, h⟩ | ⟨n, k, h⟩
  · exact settings_fits fst i cs hs (ht i hi) c hc _ hce
  · rw [h]; trivial
  · rw [h]; trivial

end Crd
