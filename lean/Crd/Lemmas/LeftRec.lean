import Crd.Spec.Grammar

/-!
# The three list nonterminals of the chord language (`values`, `meta_internal`, `chord_list`) are one inductive
-/
namespace Crd
open Spec

/-- a left-recursive list nonterminal `X ::= Y | X sep Y` -/
inductive LeftRec (sep : List TK) (L : List TK → Prop) : List TK → Prop
  | one (v) (h : L v) : LeftRec sep L v
  | more (vs v) (h1 : LeftRec sep L vs) (h2 : L v) : LeftRec sep L (vs ++ (sep ++ v))

theorem lvalues_leftRec {ts : List TK} : LValues ts ↔ LeftRec [.COMMA] LValue ts := by
  constructor <;> intro h <;> induction h with
  | one v hv => exact .one v hv
  | more vs v _ hv ih => exact .more vs v ih hv

theorem lmetaint_leftRec {ts : List TK} : LMetaInt ts ↔ LeftRec [.COMMA] (· = [.METADATA, .EQUAL, .METADATA]) ts := by
  constructor
  · intro h
    induction h with
    | one => exact .one _ rfl
    | more ms _ ih => exact .more ms _ ih rfl
  · intro h
    induction h with
    | one v hv => subst hv; exact .one
    | more ms v _ hv ih => subst hv; exact .more ms ih

theorem llist_leftRec {ts : List TK} : LList ts ↔ LeftRec [] LItem ts := by
  constructor <;> intro h <;> induction h with
  | one i hi => exact .one i hi
  | more l i _ hi ih => exact .more l i ih hi

end Crd
