import Crd.Model.Note

/-!
# `lookup` (a Go map index modelled as a search of the entry list)
-/
namespace Crd

theorem lookup_eq_find? {α β} [DecidableEq α] (k : α) (l : List (α × β)) :
    lookup k l = (l.find? (fun p => p.1 = k)).map (·.2) := by
  induction l with
  | nil => rfl
  | cons a as ih =>
    obtain ⟨x, y⟩ := a
    simp only [lookup, List.find?_cons]
    by_cases h : x = k <;> simp [h, ih]

theorem lookup_mem {α β} [DecidableEq α] (k : α) (l : List (α × β)) (v : β) (h : lookup k l = some v) : (k, v) ∈ l := by
  rw [lookup_eq_find?, Option.map_eq_some_iff] at h
  obtain ⟨⟨a, b⟩, hf, rfl⟩ := h
  obtain rfl : a = k := by simpa using List.find?_some hf
  exact List.mem_of_find?_eq_some hf

theorem lookup_isSome_of_mem {α β} [DecidableEq α] {k : α} {l : List (α × β)} {v : β} (h : (k, v) ∈ l) :
    (lookup k l).isSome = true := by
  rw [lookup_eq_find?, Option.isSome_map, List.find?_isSome]
  exact ⟨_, h, decide_eq_true rfl⟩

theorem lookup_append {α β} [DecidableEq α] (k : α) (l1 l2 : List (α × β)) :
    lookup k (l1 ++ l2) = (lookup k l1).orElse fun _ => lookup k l2 := by
  simp only [lookup_eq_find?, List.find?_append]
  cases l1.find? (fun p => p.1 = k) <;> rfl

end Crd
