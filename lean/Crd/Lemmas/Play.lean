import Crd.Spec.PlaySpec
import Crd.Lemmas.Except

/-!
# `play.MIDIWriter.Write` = the specification loop

`specLoop_cons` is the one place where a step of `specLoop` is taken apart: guards, settings, `soundCall`, the rest.
-/
namespace Crd
open Generated

/-- the four `updated` flags (tempo, meter, key, texts) all have the value `first`, the key cell holds `k0` and the
dynamic `v0`; while the flags are set, the cells hold the defaults -/
structure Args.Rel (a : Args) (first : Bool) (k0 : Key) (v0 : Dyn) : Prop where
  bpmFlag : a.bpm.2 = first
  meterFlag : a.meter.2 = first
  keyFlag : a.key.2 = first
  mtaFlag : a.mta.2 = first
  key : a.key.1 = k0
  velocity : a.velocity = v0
  defaults : first = true →
    a.bpm.1 = defaultBPM ∧ a.meter.1 = ⟨defaultMeter.1, defaultMeter.2⟩ ∧ a.key.1 = defaultKey ∧ a.mta.1 = []

theorem init_rel : Args.init.Rel true defaultKey defaultVelocity :=
  ⟨rfl, rfl, rfl, rfl, rfl, rfl, fun _ => ⟨rfl, rfl, rfl, rfl⟩⟩

theorem flush_spec (a : Args) (first : Bool) (k0 : Key) (v0 : Dyn) (h : a.Rel first k0 v0) (i : Instance) :
    ((a.update i).flush).1 = settingsCalls first i ∧
    ((a.update i).flush).2.Rel false (i.key.getD k0) (i.velocity.getD v0) := by
  obtain ⟨h1, h2, h3, h4, h5, h6, h7⟩ := h
  obtain ⟨chord, values, bpm, velocity, meter, key, mta⟩ := i
  -- both sides are `K.map fun k => tempo ++ meter ++ k ++ texts`, and each of the four parts looks at one cell only
  have parts : ∀ {K K' : Option (List WCall)} {t t' m m' x x' : List WCall}, t = t' → m = m' → K = K' → x = x' →
      K.map (fun k => t ++ m ++ k ++ x) = K'.map (fun k => t' ++ m' ++ k ++ x') := by
    rintro _ _ _ _ _ _ _ _ rfl rfl rfl rfl; rfl
  refine ⟨?_, ?_⟩
  · simp only [Args.flush, Args.update, settingsCalls]
    refine parts ?tempo ?meter ?keySig ?texts
    case tempo => cases first <;> cases bpm <;> simp_all
    case meter => cases first <;> cases meter <;> simp_all
    case keySig => cases first <;> cases key <;> simp_all
    case texts => cases first <;> cases mta <;> simp_all
  · refine ⟨rfl, rfl, rfl, rfl, ?_, h6 ▸ rfl, nofun⟩
    cases key <;> simp_all [Args.flush, Args.update]

theorem keyHasNoScale_eq_false {i : Instance} :
    keyHasNoScale i = false ↔ ∀ k, i.key = some k → (newScale k).isSome = true := by
  unfold keyHasNoScale
  cases i.key <;> simp [Option.isSome_iff_ne_none]

/-- the one sounding call of an instance: a rest, or a note with the keys of its chord -/
def soundCall (d : Dict) (k : Key) (v : Dyn) (i : Instance) : Except Err WCall :=
  match i.chord with
  | none => .ok (.rest i.values)
  | some c => match applyChord d k c with
    | .err e => .error e
    | .ok keys => .ok (.note i.values (v.velocity % 256) keys)

theorem specLoop_cons (d : Dict) (first : Bool) (k0 : Key) (v0 : Dyn) (i : Instance) (is : List Instance) :
    specLoop d first k0 v0 (i :: is) =
      if i.values.isEmpty then .error .invalid else if keyHasNoScale i then .error .notFound else
        match settingsCalls first i with
        | none => .error (.panic "MustNewScale")
        | some cs => (soundCall d (i.key.getD k0) (i.velocity.getD v0) i).bind fun call =>
            (specLoop d false (i.key.getD k0) (i.velocity.getD v0) is).map fun r => cs ++ [call] ++ r := by
  rw [specLoop]
  unfold soundCall
  split
  · rfl
  split
  · rfl
  cases settingsCalls first i with
  | none => rfl
  | some cs =>
    cases i.chord with
    | none => rfl
    | some c => dsimp only; cases applyChord d (i.key.getD k0) c <;> rfl

theorem specLoop_cons_ok {d : Dict} {first : Bool} {k0 : Key} {v0 : Dyn} {i : Instance} {is : List Instance} {calls : List WCall}
    (h : specLoop d first k0 v0 (i :: is) = .ok calls) :
    i.values.isEmpty = false ∧ keyHasNoScale i = false ∧ ∃ cs call r, settingsCalls first i = some cs ∧
      soundCall d (i.key.getD k0) (i.velocity.getD v0) i = .ok call ∧
      specLoop d false (i.key.getD k0) (i.velocity.getD v0) is = .ok r ∧ calls = cs ++ [call] ++ r := by
  rw [specLoop_cons] at h
  split at h
  · cases h
  split at h
  · cases h
  rename_i hv hk
  cases hs : settingsCalls first i with
  | none => rw [hs] at h; cases h
  | some cs =>
    rw [hs] at h
    obtain ⟨call, hc, h⟩ := bind_ok_iff.mp h
    obtain ⟨r, hr, rfl⟩ := map_ok_iff.mp h
    exact ⟨by simpa using hv, by simpa using hk, cs, call, r, rfl, hc, hr, rfl⟩

/-- **the writer's loop with its `Opt` cells computes the specification loop** -/
theorem writeLoop_eq_spec (d : Dict) : ∀ (is : List Instance) (a : Args) (first : Bool) (k0 : Key) (v0 : Dyn),
    a.Rel first k0 v0 → writeLoop d a is = specLoop d first k0 v0 is
  | [], _, _, _, _, _ => rfl
  | i :: is, a, first, k0, v0, h => by
    obtain ⟨f1, f2⟩ := flush_spec a first k0 v0 h i
    rw [specLoop_cons, ← f1, writeLoop]
    unfold soundCall
    dsimp only
    split
    · rfl
    split
    · rfl
    rw [← writeLoop_eq_spec d is _ false _ _ f2, ← f2.key, ← f2.velocity]
    rcases (a.update i).flush with ⟨_ | calls, a2⟩
    · rfl
    · cases i.chord with
      | none => rfl
      | some c => dsimp only; cases applyChord d a2.key.1 c <;> rfl

theorem playWrite_eq_spec (d : Dict) (is : List Instance) :
    playWrite d is = if is.isEmpty then .error .invalid else specLoop d true defaultKey defaultVelocity is := by
  unfold playWrite
  split
  · rfl
  · exact writeLoop_eq_spec d is _ _ _ _ init_rel

/-- `k0` is the key before the instance; before the first one it is the default -/
theorem settingsCalls_isSome {first : Bool} {i : Instance} {k0 : Key} (hf : first = true → k0 = defaultKey)
    (hk : (keySigCall (i.key.getD k0)).isSome = true) : (settingsCalls first i).isSome = true := by
  unfold settingsCalls
  cases first with
  | true => cases hf rfl; simpa using hk
  | false => cases hik : i.key <;> simp_all

end Crd
