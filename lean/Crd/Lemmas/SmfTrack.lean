import Crd.Lemmas.Vlq

/-!
# The strict reader on a whole written track: `readEvents (trackData …) = the events`

First the reader on one written event followed by more bytes (a meta event, the end of track, a channel message with
its status byte or under running status): each `readEvents_*` lemma rewrites `readEvents` on "delta, message, rest" to
the event consed on `readEvents` of the rest.  Then the writer: an event is a meta event (`metaParts`) or a channel
message (`chanParts`); `trackData_meta` / `trackData_chan` say what it puts out for each, in the form those lemmas take.
-/
namespace Crd
open Crd.Spec

theorem readEvents_meta (f rs d typ : Nat) (data rest : List Nat) (hd : d ≤ 0x0FFFFFFF) (htyp : typ < 128)
    (hlen : data.length ≤ 0x0FFFFFFF) (hok : metaLenOK typ data.length = true) (hne : typ ≠ 0x2F)
    (hks : typ = 0x59 → ((data[0]! ≤ 7 ∨ 249 ≤ data[0]!) ∧ data[1]! ≤ 1)) (hrest : rest ≠ []) :
    readEvents (f + 1) rs (vlq d ++ (metaMsg typ data ++ rest)) =
      (readEvents f 0 rest).map (SEvent.mta d typ data :: ·) := by
  have hre : rest.isEmpty = false := by cases rest <;> simp_all
  have hk : ¬ (typ = 0x59 ∧ ¬ ((data[0]! ≤ 7 ∨ 249 ≤ data[0]!) ∧ data[1]! ≤ 1)) := fun ⟨h1, h2⟩ => h2 (hks h1)
  rw [readEvents, readVlq_vlq d hd]
  simp only [metaMsg, List.append_assoc, List.cons_append, List.nil_append, isData, htyp, decide_true,
    readVlq_vlq data.length hlen, List.take_left, List.drop_left, Nat.lt_irrefl, hok, hne, hre,
    Bool.not_true, Bool.false_eq_true, if_false, Bool.not_eq_true', decide_eq_false_iff_not, hk]

theorem readEvents_close (f rs d : Nat) (hd : d ≤ 0x0FFFFFFF) :
    readEvents (f + 1) rs (vlq d ++ metaMsg 0x2F []) = .ok [SEvent.mta d 0x2F []] := by
  rw [readEvents, ← List.append_nil (metaMsg 0x2F []), readVlq_vlq d hd]
  simp [metaMsg, isData, readVlq, vlq, vlqHi, vlqAux, metaLenOK]

/-- one data byte for program change (status C0..CF), two below -/
def chan2OK (s1 : Nat) : Option Nat → Prop
  | none => 0xC0 ≤ s1
  | some x => s1 < 0xC0 ∧ x < 128

/-- a channel message with status `s1`, written with its status byte or, if `s1` is the running status, without -/
theorem readEvents_chan (f rs d s1 d1 : Nat) (d2 : Option Nat) (rest : List Nat) (hd : d ≤ 0x0FFFFFFF)
    (hs1 : 0x80 ≤ s1 ∧ s1 ≤ 0xCF) (hd1 : d1 < 128) (hd2 : chan2OK s1 d2) (hrest : rest ≠ []) :
    readEvents (f + 1) rs (vlq d ++ ((if s1 = rs then [] else [s1]) ++ d1 :: (d2.toList ++ rest))) =
      (readEvents f s1 rest).map (SEvent.midi d s1 d1 d2 :: ·) := by
  have hre : rest.isEmpty = false := by cases rest <;> simp_all
  rw [readEvents, readVlq_vlq d hd]
  simp only
  split
  · rename_i heq; split at heq <;> cases heq
  · rename_i heq; split at heq <;> injection heq <;> omega
  · rename_i b r1 _ heq
    -- with or without the status byte, the reader goes on with status `s1` and the data bytes `d1 :: d2 ++ rest`
    have hst : b < 0xF0 ∧ (if b ≥ 128 then (b, r1) else (rs, b :: r1)) = (s1, d1 :: (d2.toList ++ rest)) := by
      split at heq <;> injection heq with hb hr <;> subst hb hr
      · subst rs; exact ⟨by omega, if_neg (by omega)⟩
      · exact ⟨by omega, if_pos hs1.1⟩
    have h1 : ¬ (b = 240 ∨ b = 247) := by omega
    have h2 : ¬ b ≥ 240 := by omega
    have h3 : s1 ≠ 0 := by omega
    simp only [h1, h2, hst.2, h3, if_false, isData, hd1, decide_true, Bool.not_true, Bool.false_eq_true]
    cases d2 with
    | none =>
      have : 0xC0 ≤ s1 ∧ s1 ≤ 0xDF := ⟨hd2, by omega⟩
      simp only [this, and_self, if_true, Option.toList, List.nil_append, hre, Bool.false_eq_true, if_false]
    | some x =>
      have hx : s1 < 0xC0 ∧ x < 128 := hd2
      have : ¬ (0xC0 ≤ s1 ∧ s1 ≤ 0xDF) := by omega
      simp only [this, if_false, Option.toList, List.singleton_append, hx.2, decide_true, Bool.not_true, hre,
        Bool.false_eq_true]

def keySigData (isMajor : Bool) (num : Nat) (isFlat : Bool) : Bytes :=
  let sf8 : Int := (((num : Int) + 128).emod 256) - 128
  [(((if isFlat then -sf8 else sf8)).emod 256).toNat, if isMajor then 0 else 1]

def Ev.metaParts : Ev → Option (Nat × Bytes)
  | .seqName s => some (0x03, strBytes s)
  | .instrument s => some (0x04, strBytes s)
  | .tempo bpm => some (0x51, tempoPayload bpm)
  | .meter n d => some (0x58, [n, dec2binDenom (if d = 0 then 1 else d), 8, 8])
  | .keySig _ isMajor num isFlat => some (0x59, keySigData isMajor num isFlat)
  | .text s => some (0x01, strBytes s)
  | .lyric s => some (0x05, strBytes s)
  | .marker s => some (0x06, strBytes s)
  | .close => some (0x2F, [])
  | _ => none

def Ev.chanParts : Ev → Option (Nat × Nat × Option Nat)
  | .program ch p => some (0xC0 + min ch 15, min p 127, none)
  | .noteOn ch k v => some (0x90 + min ch 15, min k 127, some (min v 127))
  | .noteOff ch k => some (0x80 + min ch 15, min k 127, some 0)
  | _ => none

/-- the strict reader's view of a written event -/
def toS (x : Nat × Ev) : SEvent :=
  match x.2.metaParts, x.2.chanParts with
  | some (typ, data), _ => .mta x.1 typ data
  | none, some (st, d1, d2) => .midi x.1 st d1 d2
  | none, none => .mta x.1 0 []

theorem bytes_meta (e : Ev) (typ : Nat) (data : Bytes) (h : e.metaParts = some (typ, data)) :
    e.bytes = metaMsg typ data ∧ typ < 128 := by
  cases e <;> simp [Ev.metaParts] at h <;> obtain ⟨rfl, rfl⟩ := h <;> simp [Ev.bytes, keySigData]

theorem bytes_chan (e : Ev) (s1 d1 : Nat) (d2 : Option Nat) (h : e.chanParts = some (s1, d1, d2)) :
    e.bytes = s1 :: d1 :: d2.toList ∧ (0x80 ≤ s1 ∧ s1 ≤ 0xCF) ∧ d1 < 128 ∧ chan2OK s1 d2 := by
  cases e <;> simp [Ev.chanParts] at h <;> obtain ⟨rfl, rfl, rfl⟩ := h <;> simp [Ev.bytes, chan2OK] <;> omega

theorem parts_total (e : Ev) (h : e.metaParts = none) : ∃ p, e.chanParts = some p := by
  cases e <;> simp_all [Ev.metaParts, Ev.chanParts]

theorem close_meta (e : Ev) (data : Bytes) (h : e.metaParts = some (0x2F, data)) : e = .close := by
  cases e <;> simp [Ev.metaParts] at h <;> rfl

/-- what the reader needs of one event besides a delta that fits -/
def EvOK (e : Ev) : Prop :=
  match e.metaParts with
  | some (typ, data) => data.length ≤ 0x0FFFFFFF ∧ metaLenOK typ data.length = true ∧
      (typ = 0x59 → ((data[0]! ≤ 7 ∨ 249 ≤ data[0]!) ∧ data[1]! ≤ 1))
  | none => True

/-- a closed track: no end of track before the last event, which is one -/
def Closed : List (Nat × Ev) → Prop
  | [] => False
  | [x] => x.2 = .close
  | x :: r => x.2 ≠ .close ∧ Closed r

theorem closed_of_events : ∀ {ops : List (Nat × Ev)} {pre : List Ev}, ops.map (·.2) = pre ++ [.close] →
    (∀ e ∈ pre, e ≠ .close) → Closed ops := by
  intro ops
  induction ops with
  | nil => intro pre h; simp at h
  | cons x r ih =>
    intro pre h hp
    cases pre with
    | nil =>
      obtain ⟨hx, hr⟩ : x.2 = .close ∧ r = [] := by simpa using h
      subst hr; exact hx
    | cons e pre =>
      obtain ⟨hx, hr⟩ : x.2 = e ∧ r.map (·.2) = pre ++ [.close] := by simpa using h
      have := ih hr (fun y hy => hp y (by simp [hy]))
      cases r with
      | nil => simp at hr
      | cons y r' => exact ⟨hx ▸ hp e (by simp), this⟩

/-- a meta event cancels the running status -/
theorem trackData_meta (st d : Nat) (e : Ev) (r : List (Nat × Ev)) (typ : Nat) (data : Bytes)
    (h : e.metaParts = some (typ, data)) : trackData st ((d, e) :: r) = vlq d ++ (metaMsg typ data ++ trackData 0 r) := by
  simp [trackData, (bytes_meta e typ data h).1, metaMsg]

/-- a channel message goes out without its status byte if that is the running status, and sets it -/
theorem trackData_chan (st d : Nat) (e : Ev) (r : List (Nat × Ev)) (s1 d1 : Nat) (d2 : Option Nat)
    (h : e.chanParts = some (s1, d1, d2)) :
    trackData st ((d, e) :: r) = vlq d ++ ((if s1 = st then [] else [s1]) ++ d1 :: (d2.toList ++ trackData s1 r)) := by
  obtain ⟨hb, hs, -⟩ := bytes_chan e s1 d1 d2 h
  have : 0x80 ≤ s1 ∧ s1 ≤ 0xEF := by omega
  simp only [trackData, hb, List.headD_cons, this, and_self, if_true]
  by_cases hst : s1 = st
  · subst hst; simp
  · simp [hst]

theorem vlq_ne_nil (n : Nat) : vlq n ≠ [] := by unfold vlq; simp

theorem trackData_length_ge (st : Nat) (evs : List (Nat × Ev)) : evs.length ≤ (trackData st evs).length := by
  induction evs generalizing st with
  | nil => simp [trackData]
  | cons x r ih =>
    have hv : 1 ≤ (vlq x.1).length := List.length_pos_iff.mpr (vlq_ne_nil _)
    have h1 := ih st
    have h2 := ih ((x.2.bytes).headD 0)
    have h3 := ih 0
    simp only [trackData]
    repeat' split
    all_goals simp only [List.length_append, List.length_cons]; omega

theorem trackData_ne_nil (st : Nat) (evs : List (Nat × Ev)) (h : evs ≠ []) : trackData st evs ≠ [] := by
  have := trackData_length_ge st evs
  intro h0
  rw [h0] at this
  exact h (List.eq_nil_of_length_eq_zero (by simpa using this))

/-- **the strict reader recovers exactly the events of a written track** -/
theorem readEvents_track : ∀ (evs : List (Nat × Ev)) (f st : Nat), Closed evs → (∀ x ∈ evs, x.1 ≤ 0x0FFFFFFF ∧ EvOK x.2) →
    evs.length ≤ f → readEvents f st (trackData st evs) = .ok (evs.map toS) := by
  intro evs
  induction evs with
  | nil => intro f st hc; exact absurd hc (by simp [Closed])
  | cons x r ih =>
    intro f st hc hok hf
    obtain ⟨d, e⟩ := x
    obtain ⟨f, rfl⟩ : ∃ f', f = f' + 1 := ⟨f - 1, by simp at hf; omega⟩
    obtain ⟨hd, he⟩ := hok (d, e) (by simp)
    cases r with
    | nil =>
      have : e = .close := by simpa [Closed] using hc
      subst this
      rw [trackData_meta st d .close [] 0x2F [] rfl, trackData, List.append_nil, readEvents_close f st d hd]
      rfl
    | cons y r' =>
      obtain ⟨hne, hcl⟩ : e ≠ .close ∧ Closed (y :: r') := by simpa [Closed] using hc
      have hrec := fun st' => ih f st' hcl (fun z hz => hok z (by simp [hz])) (by simp at hf ⊢; omega)
      have hrest := fun st' => trackData_ne_nil st' (y :: r') (by simp)
      cases hm : e.metaParts with
      | some p =>
        obtain ⟨typ, data⟩ := p
        simp only [EvOK, hm] at he
        rw [trackData_meta st d e _ typ data hm, readEvents_meta f st d typ data _ hd (bytes_meta e typ data hm).2 he.1 he.2.1
          (fun h => hne (close_meta e data (h ▸ hm))) he.2.2 (hrest 0), hrec]
        simp [Except.map, toS, hm]
      | none =>
        obtain ⟨⟨s1, d1, d2⟩, hch⟩ := parts_total e hm
        obtain ⟨-, hs, hd1, hd2⟩ := bytes_chan e s1 d1 d2 hch
        rw [trackData_chan st d e _ s1 d1 d2 hch, readEvents_chan f st d s1 d1 d2 _ hd hs hd1 hd2 (hrest s1), hrec]
        simp [Except.map, toS, hm, hch]

end Crd
