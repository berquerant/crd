import Crd.Model.Raw
import Crd.Props.C16

/-!
# The composed pipeline on the diatonic chords of one key (kernel-evaluable predicate for C17)
-/
namespace Crd
open Crd.Spec Crd.Props.C16

/-- everything C17 says about the i-th listed chord of a key, evaluated through the COMPOSED model:
lexer → parser → classifier → syllable converter (key K) → dictionary → play.Key.Apply (key K) -/
def diatonicChordOK (k : Key) (s : Scale) (seventh : Bool) (i : Nat) (str : String) : Bool :=
  match cmdTextConvChars .syllable k.str (str.toList ++ "[1]".toList) with
  | .ok [inst] =>
    (match inst.chord, s.notes[i]? with
     | some c, some note =>
       -- written on the i-th scale note: the text starts with that note's spelling and converts to degree i+1
       (note.str.toList.isPrefixOf str.toList) && c.degree.value == i + 1 && c.base == none &&
       -- carries the quality of the harmonisation (stacked thirds on the scale), and the symbol is in the dictionary
       some c.name == diatonicSymbol k.minor seventh i && (builtin.chord c.name).isSome &&
       -- and sounds only notes of the key
       (match applyChord builtin k c, k.semitone? with
        | .ok keys, some t =>
          keys.length == (if seventh then 5 else 4) &&
          keys.all fun x => (scaleOffsets k.minor).contains ((Int.ofNat x - 60 - t).emod 12)
        | _, _ => false)
     | _, _ => false)
  | _ => false

def diatonicKeyOK (k : Key) : Bool :=
  match newScale k with
  | none => false
  | some s =>
    [false, true].all fun sev =>
      let l := diatonicChords s sev
      l.length == 7 && ((List.range 7).all fun i => match l[i]? with | some str => diatonicChordOK k s sev i str | none => false)

end Crd
