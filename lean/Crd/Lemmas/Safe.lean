import Crd.Model.Raw
import Crd.Lemmas.Except

/-!
# `optM` (the optional fields of the YAML reader) and `Safe`: no `panic` and no `hang` among the errors of a
computation, carried through `bind`, `map`, `optM` and `mapM`
-/
namespace Crd

variable {α β : Type}

theorem optM_ok_iff {o : Option α} {f : α → Except Err β} {r : Option β} :
    optM o f = .ok r ↔ (o = none ∧ r = none) ∨ ∃ a b, o = some a ∧ f a = .ok b ∧ r = some b := by
  cases o with
  | none => simp [optM, eq_comm]
  | some a => simp only [optM, map_ok_iff]; simp [eq_comm]

theorem optM_ok_all {f : α → Except Err β} {P : β → Prop} (hf : ∀ {a b}, f a = .ok b → P b) {o : Option α} {r : Option β}
    (h : optM o f = .ok r) : ∀ b, r = some b → P b := by
  rintro b rfl
  rcases optM_ok_iff.mp h with ⟨_, h⟩ | ⟨a, b', _, hb, h⟩ <;> cases h
  exact hf hb

theorem optM_map_ok {o : Option α} {g : α → β} {f : β → Except Err α} (h : ∀ a, o = some a → f (g a) = .ok a) :
    optM (o.map g) f = .ok o := by
  cases o with
  | none => rfl
  | some a => exact optM_ok_iff.mpr (.inr ⟨g a, a, rfl, h a rfl, rfl⟩)

/-- what C09 calls "never crashes": in the model every `Must…`, `logx.Panic` and unguarded loop of the Go code is an
explicit `Err.panic` / `Err.hang`; a computation is safe when it can fail only with the other errors -/
def Safe (x : Except Err α) : Prop := ∀ e, x = .error e → e.isCrash = false

theorem safe_ok (a : α) : Safe (Except.ok a : Except Err α) := fun _ h => by cases h

theorem safe_err {e : Err} (he : e.isCrash = false) : Safe (Except.error e : Except Err α) := fun _ h => by cases h; exact he

/-- stated for `>>=`, so that it applies to the steps of a `do` block as they stand; `Except.bind` unifies with it -/
theorem safe_bind {x : Except Err α} {f : α → Except Err β} (hx : Safe x) (hf : ∀ a, x = .ok a → Safe (f a)) :
    Safe (x >>= f) := by
  intro e h
  cases x with
  | error e' => cases h; exact hx _ rfl
  | ok a => exact hf a rfl e h

theorem safe_guard {c : Prop} [Decidable c] {e : Err} {k : α → Except Err β} {x : Except Err β} (he : e.isCrash = false)
    (hx : Safe x) : Safe (if c then (throw e : Except Err α) >>= k else x) := by
  split
  · exact safe_bind (safe_err he) nofun
  · exact hx

theorem safe_map {x : Except Err α} {g : α → β} (hx : Safe x) : Safe (x.map g) := by
  intro e h
  cases x with
  | error e' => cases h; exact hx _ rfl
  | ok a => cases h

theorem safe_optM {f : α → Except Err β} (hf : ∀ a, Safe (f a)) {o : Option α} : Safe (optM o f) := by
  cases o with
  | none => exact safe_ok _
  | some a => exact safe_map (hf a)

theorem safe_mapM {f : α → Except Err β} (hf : ∀ a, Safe (f a)) : ∀ l : List α, Safe (l.mapM f)
  | [] => safe_ok _
  | a :: l => by
    rw [List.mapM_cons]
    exact safe_bind (hf a) fun _ _ => safe_bind (safe_mapM hf l) fun _ _ => safe_ok _

end Crd
