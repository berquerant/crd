import Crd.Lemmas.Tracks
import Crd.Lemmas.Play
import Crd.Lemmas.Prepare
import Crd.Lemmas.Apply

/-!
# The timeline of a whole piece (specification `pieceLog`) and the end-to-end refinement theorem

An instance contributes three blocks of log entries — `instSettings`, `instOns`, `instOffs` — and `pieceLog` is
their concatenation, instance after instance (`pieceLog_cons`); `mem_pieceLog` says what an entry can be.  The same
by index: start ticks (`startAt`), key and dynamic in force (`keyAt`, `dynAt`), `pieceLog_filter_by_instance`.
-/
namespace Crd
open Generated

/-- **specification of `crd write` at timeline level**: instance after instance, starting at tick `T`:
its setting events at its start, its note-ons at its start, its note-offs at its end; the next instance starts
where this one ends.  `τ` is the tick length of a duration list. -/
def pieceLog (τ : List Rat' → Nat) (d : Dict) : Nat → Bool → Key → Dyn → List Instance → List LogE
  | _, _, _, _, [] => []
  | T, first, k0, v0, i :: is =>
    let k := i.key.getD k0
    let v := i.velocity.getD v0
    let settings := ((settingsCalls first i).getD []).filterMap fun c => c.metaEv.map fun e => (T, OpT.metaT, e)
    let sound := match i.chord with
      | none => []
      | some c => match applyChord d k c with
        | .ok keys => fixedEvs (fun x => .noteOn 0 x (v.velocity % 256)) T 0 keys ++
                      fixedEvs (fun x => .noteOff 0 x) (T + τ i.values) 0 keys
        | .err _ => []
    settings ++ sound ++ pieceLog τ d (T + τ i.values) false k v is

def totalTicks (τ : List Rat' → Nat) (is : List Instance) : Nat := (is.map fun i => τ i.values).sum

def instSettings (first : Bool) (T : Nat) (i : Instance) : List LogE :=
  ((settingsCalls first i).getD []).filterMap fun c => c.metaEv.map fun e => (T, OpT.metaT, e)

def instOns (d : Dict) (k : Key) (v : Dyn) (T : Nat) (i : Instance) : List LogE :=
  match i.chord with
  | none => []
  | some c => match applyChord d k c with
    | .ok keys => fixedEvs (fun x => .noteOn 0 x (v.velocity % 256)) T 0 keys
    | .err _ => []

def instOffs (d : Dict) (k : Key) (T : Nat) (i : Instance) : List LogE :=
  match i.chord with
  | none => []
  | some c => match applyChord d k c with
    | .ok keys => fixedEvs (fun x => .noteOff 0 x) T 0 keys
    | .err _ => []

/-- the MIDI keys an instance sounds in key `k`: none for a rest -/
def chordKeys (d : Dict) (k : Key) (i : Instance) : List Nat :=
  match i.chord with
  | none => []
  | some c => match applyChord d k c with
    | .ok keys => keys
    | .err _ => []

theorem chordKeys_rest {d : Dict} {k : Key} {i : Instance} (h : i.chord = none) : chordKeys d k i = [] := by
  simp [chordKeys, h]

theorem chordKeys_chord {d : Dict} {k : Key} {i : Instance} {c : ChordIn} {keys : List Nat}
    (hc : i.chord = some c) (ha : applyChord d k c = .ok keys) : chordKeys d k i = keys := by
  simp [chordKeys, hc, ha]

/-- both note blocks are `fixedEvs` over the same keys -/
theorem instOns_eq (d : Dict) (k : Key) (v : Dyn) (T : Nat) (i : Instance) :
    instOns d k v T i = fixedEvs (fun x => .noteOn 0 x (v.velocity % 256)) T 0 (chordKeys d k i) := by
  unfold instOns chordKeys
  cases i.chord with
  | none => rfl
  | some c => cases h : applyChord d k c <;> simp [h, fixedEvs]

theorem instOffs_eq (d : Dict) (k : Key) (T : Nat) (i : Instance) :
    instOffs d k T i = fixedEvs (fun x => .noteOff 0 x) T 0 (chordKeys d k i) := by
  unfold instOffs chordKeys
  cases i.chord with
  | none => rfl
  | some c => cases h : applyChord d k c <;> simp [h, fixedEvs]

theorem pieceLog_cons (τ : List Rat' → Nat) (d : Dict) (T : Nat) (first : Bool) (k0 : Key) (v0 : Dyn) (i : Instance) (is : List Instance) :
    pieceLog τ d T first k0 v0 (i :: is) =
      instSettings first T i ++ (instOns d (i.key.getD k0) (i.velocity.getD v0) T i ++ instOffs d (i.key.getD k0) (T + τ i.values) i) ++
        pieceLog τ d (T + τ i.values) false (i.key.getD k0) (i.velocity.getD v0) is := by
  simp only [pieceLog, instSettings, instOns, instOffs]
  cases i.chord with
  | none => simp
  | some c => cases h : applyChord d (i.key.getD k0) c <;> simp [h]

theorem mem_instSettings {first : Bool} {T : Nat} {i : Instance} {e : LogE} (h : e ∈ instSettings first T i) :
    ∃ cs, settingsCalls first i = some cs ∧ ∃ c ∈ cs, ∃ ev, c.metaEv = some ev ∧ e = (T, .metaT, ev) := by
  simp only [instSettings, List.mem_filterMap, Option.map_eq_some_iff] at h
  obtain ⟨c, hc, ev, hev, rfl⟩ := h
  cases hs : settingsCalls first i with
  | none => simp [hs] at hc
  | some cs => exact ⟨cs, rfl, c, by simpa [hs] using hc, ev, hev, rfl⟩

theorem mem_instOns {d : Dict} {k : Key} {v : Dyn} {T : Nat} {i : Instance} {e : LogE} (h : e ∈ instOns d k v T i) :
    ∃ n x, e = (T, .fixed n, .noteOn 0 x (v.velocity % 256)) := by
  rw [instOns_eq] at h
  obtain ⟨n, x, _, rfl⟩ := mem_fixedEvs h
  exact ⟨n, x, rfl⟩

theorem mem_instOffs {d : Dict} {k : Key} {T : Nat} {i : Instance} {e : LogE} (h : e ∈ instOffs d k T i) :
    ∃ n x, e = (T, .fixed n, .noteOff 0 x) := by
  rw [instOffs_eq] at h
  obtain ⟨n, x, _, rfl⟩ := mem_fixedEvs h
  exact ⟨n, x, rfl⟩

theorem mem_pieceLog {τ : List Rat' → Nat} {d : Dict} {e : LogE} : ∀ {is : List Instance} {T : Nat} {first : Bool} {k0 : Key} {v0 : Dyn},
    e ∈ pieceLog τ d T first k0 v0 is →
      (∃ i ∈ is, ∃ first cs, settingsCalls first i = some cs ∧ ∃ c ∈ cs, c.metaEv = some e.2.2 ∧ e.2.1 = .metaT) ∨
      (∃ n k v, e.2 = (.fixed n, .noteOn 0 k v)) ∨ (∃ n k, e.2 = (.fixed n, .noteOff 0 k))
  | [], _, _, _, _, h => by simp [pieceLog] at h
  | i :: is, T, first, k0, v0, h => by
    rw [pieceLog_cons] at h
    simp only [List.mem_append] at h
    rcases h with (h | h | h) | h
    · obtain ⟨cs, hs, c, hc, ev, hev, rfl⟩ := mem_instSettings h
      exact .inl ⟨i, List.mem_cons_self .., first, cs, hs, c, hc, hev, rfl⟩
    · obtain ⟨n, x, rfl⟩ := mem_instOns h
      exact .inr (.inl ⟨n, x, _, rfl⟩)
    · obtain ⟨n, x, rfl⟩ := mem_instOffs h
      exact .inr (.inr ⟨n, x, rfl⟩)
    · rcases mem_pieceLog h with ⟨j, hj, r⟩ | r
      · exact .inl ⟨j, List.mem_cons_of_mem _ hj, r⟩
      · exact .inr r

theorem mem_settingsCalls {first : Bool} {i : Instance} {cs : List WCall} (h : settingsCalls first i = some cs) {c : WCall}
    (hc : c ∈ cs) : (∃ b, c = .tempo b) ∨ (∃ r, c = meterCall r) ∨ (∃ k, keySigCall k = some c) ∨
      c ∈ textCalls (i.mta.getD []) := by
  -- the first instance is treated as one that gives every setting, the defaults filled in
  obtain ⟨j, h, hm⟩ : ∃ j, settingsCalls false j = some cs ∧ j.mta.getD [] = i.mta.getD [] := by
    cases first
    · exact ⟨i, h, rfl⟩
    · refine ⟨{ i with
        bpm := some (i.bpm.getD defaultBPM), meter := some (i.meter.getD ⟨defaultMeter.1, defaultMeter.2⟩)
        key := some (i.key.getD defaultKey), mta := some (i.mta.getD []) }, ?_, rfl⟩
      simpa [settingsCalls] using h
  rw [← hm]
  simp only [settingsCalls, Bool.false_eq_true, if_false, Option.map_eq_some_iff] at h
  obtain ⟨kc, hk, rfl⟩ := h
  simp only [List.mem_append, Option.mem_toList, Option.map_eq_some_iff] at hc
  rcases hc with ((⟨b, _, rfl⟩ | ⟨r, _, rfl⟩) | hc) | hc
  · exact .inl ⟨b, rfl⟩
  · exact .inr (.inl ⟨r, rfl⟩)
  · right; right; left
    cases hkey : j.key with
    | none => simp [hkey] at hk; subst hk; simp at hc
    | some k =>
      simp only [hkey, Option.map_eq_some_iff] at hk
      obtain ⟨x, hx, rfl⟩ := hk
      exact ⟨k, by simp_all⟩
  · right; right; right
    cases hj : j.mta <;> simp_all

def allMeta (cs : List WCall) : Prop := ∀ c ∈ cs, c.metaEv.isSome = true

theorem keySigCall_meta (k : Key) (c : WCall) (h : keySigCall k = some c) : c.metaEv.isSome = true := by
  unfold keySigCall at h
  cases hs : newScale k with
  | none => simp [hs] at h
  | some s => simp [hs] at h; subst h; rfl

theorem textCalls_meta (m : List (String × String)) : allMeta (textCalls m) := by
  intro c hc
  simp only [textCalls, List.mem_append] at hc
  rcases hc with (hc | hc) | hc <;> (split at hc <;> simp at hc <;> subst hc <;> rfl)

theorem settings_meta {first : Bool} {i : Instance} {cs : List WCall} (h : settingsCalls first i = some cs) : allMeta cs := by
  intro c hc
  rcases mem_settingsCalls h hc with ⟨b, rfl⟩ | ⟨r, rfl⟩ | ⟨k, hk⟩ | ht
  · rfl
  · rfl
  · exact keySigCall_meta k c hk
  · exact textCalls_meta _ c ht

theorem refLog_meta (τ : List Rat' → Nat) {cs : List WCall} (h : allMeta cs) (T : Nat) :
    refLog τ T cs = (cs.filterMap fun c => c.metaEv.map fun e => (T, OpT.metaT, e)) ∧ refEnd τ T cs = T ∧ BodyWF cs := by
  induction cs with
  | nil => exact ⟨rfl, rfl, by simp [BodyWF]⟩
  | cons c cs ih =>
    obtain ⟨a, b, w⟩ := ih fun x hx => h x (List.mem_cons_of_mem _ hx)
    obtain ⟨e, he⟩ := Option.isSome_iff_exists.1 (h c (List.mem_cons_self ..))
    obtain ⟨_, h2, h3⟩ := cons_meta τ he cs
    refine ⟨by simp [h2, he, a], by rw [h3, b], ?_⟩
    intro x hx
    rcases List.mem_cons.1 hx with rfl | hx
    · cases x <;> simp [WCall.metaEv] at he <;> simp
    · exact w x hx

theorem refLog_soundCall (τ : List Rat' → Nat) {d : Dict} {k : Key} {v : Dyn} {i : Instance} {call : WCall}
    (h : soundCall d k v i = .ok call) (T : Nat) :
    refLog τ T [call] = instOns d k v T i ++ instOffs d k (T + τ i.values) i ∧ refEnd τ T [call] = T + τ i.values ∧
    BodyWF [call] := by
  unfold soundCall at h
  cases hc : i.chord with
  | none =>
    simp only [hc, Except.ok.injEq] at h; subst h
    simp [refLog, refEnd, instOns, instOffs, hc, BodyWF]
  | some c =>
    cases ha : applyChord d k c with
    | err e => simp [hc, ha] at h
    | ok keys =>
      simp only [hc, ha, Except.ok.injEq] at h; subst h
      have := applyChord_ne_nil d k c keys ha
      simp [refLog, refEnd, instOns, instOffs, hc, ha, BodyWF, this]

theorem specLoop_log (τ : List Rat' → Nat) (d : Dict) : ∀ (is : List Instance) (first : Bool) (k0 : Key) (v0 : Dyn) (calls : List WCall),
    specLoop d first k0 v0 is = .ok calls →
      ∃ body, calls = body ++ [.close] ∧ BodyWF body ∧
        ∀ T, refLog τ T body = pieceLog τ d T first k0 v0 is ∧ refEnd τ T body = T + totalTicks τ is
  | [], _, _, _, calls, h => by
    obtain rfl : [WCall.close] = calls := by simpa [specLoop] using h
    exact ⟨[], rfl, by simp [BodyWF], fun T => ⟨rfl, by simp [refEnd, totalTicks]⟩⟩
  | i :: is, first, k0, v0, calls, h => by
    obtain ⟨_, _, cs, call, r, hs, hcall, hr, rfl⟩ := specLoop_cons_ok h
    obtain ⟨body, rfl, hwf, hlog⟩ := specLoop_log τ d is _ _ _ r hr
    have hm := fun T => refLog_meta τ (settings_meta hs) T
    have hc := fun T => refLog_soundCall τ hcall T
    refine ⟨cs ++ [call] ++ body, by simp, ?_, fun T => ?_⟩
    · simp only [BodyWF, List.forall_mem_append] at hwf ⊢
      exact ⟨⟨(hm 0).2.2, (hc 0).2.2⟩, hwf⟩
    · simp only [refLog_append, (hm T).1, (hm T).2.1, (hc T).1, (hc T).2.1, hlog, pieceLog_cons, instSettings, hs,
        Option.getD_some, totalTicks, List.map_cons, List.sum_cons, Nat.add_assoc, true_and]

/-- key in force at instance `j`: the most recent `key` at or before it, else `k0` -/
def keyAt (k0 : Key) (is : List Instance) (j : Nat) : Key := ((is.take (j + 1)).filterMap (·.key)).getLast?.getD k0
def dynAt (v0 : Dyn) (is : List Instance) (j : Nat) : Dyn := ((is.take (j + 1)).filterMap (·.velocity)).getLast?.getD v0
/-- start tick of instance `j`: the sum of the lengths of all earlier instances -/
def startAt (τ : List Rat' → Nat) (is : List Instance) (j : Nat) : Nat := totalTicks τ (is.take j)

theorem lastSet_cons {α β} (f : α → Option β) (a : α) (l : List α) (b0 : β) :
    ((a :: l).filterMap f).getLast?.getD b0 = (l.filterMap f).getLast?.getD ((f a).getD b0) := by
  cases h : f a with
  | none => simp [h]
  | some b => simp only [List.filterMap_cons, h, Option.getD_some, List.getLast?_cons]

theorem keyAt_succ (k0 : Key) (i : Instance) (is : List Instance) (j : Nat) :
    keyAt k0 (i :: is) (j + 1) = keyAt (i.key.getD k0) is j := lastSet_cons ..

theorem dynAt_succ (v0 : Dyn) (i : Instance) (is : List Instance) (j : Nat) :
    dynAt v0 (i :: is) (j + 1) = dynAt (i.velocity.getD v0) is j := lastSet_cons ..

theorem keyAt_zero (k0 : Key) (i : Instance) (is : List Instance) : keyAt k0 (i :: is) 0 = i.key.getD k0 := lastSet_cons ..

theorem dynAt_zero (v0 : Dyn) (i : Instance) (is : List Instance) : dynAt v0 (i :: is) 0 = i.velocity.getD v0 := lastSet_cons ..

def instLog (τ : List Rat' → Nat) (d : Dict) (T : Nat) (first : Bool) (k0 : Key) (v0 : Dyn) (is : List Instance) (j : Nat)
    (i : Instance) : List LogE :=
  instSettings (first && j == 0) (T + startAt τ is j) i ++
    (instOns d (keyAt k0 is j) (dynAt v0 is j) (T + startAt τ is j) i ++
     instOffs d (keyAt k0 is j) (T + startAt τ is j + τ i.values) i)

/-- a filter that tells the three kinds of entries apart, and nothing else, keeps or drops each block of an instance whole -/
theorem instLog_filter {p : LogE → Bool} {s on off : Bool}
    (hs : ∀ T (c : WCall) ev, c.metaEv = some ev → p (T, .metaT, ev) = s)
    (hon : ∀ T n x v, p (T, .fixed n, .noteOn 0 x v) = on) (hoff : ∀ T n x, p (T, .fixed n, .noteOff 0 x) = off)
    (τ : List Rat' → Nat) (d : Dict) (T : Nat) (first : Bool) (k0 : Key) (v0 : Dyn) (is : List Instance) (j : Nat) (i : Instance) :
    (instLog τ d T first k0 v0 is j i).filter p =
      (if s then instSettings (first && j == 0) (T + startAt τ is j) i else []) ++
        ((if on then instOns d (keyAt k0 is j) (dynAt v0 is j) (T + startAt τ is j) i else []) ++
         if off then instOffs d (keyAt k0 is j) (T + startAt τ is j + τ i.values) i else []) := by
  have block : ∀ {l : List LogE} {b : Bool}, (∀ e ∈ l, p e = b) → l.filter p = if b then l else [] := by
    intro l b h
    cases b
    · exact List.filter_eq_nil_iff.2 fun e he => by simp [h e he]
    · exact List.filter_eq_self.2 h
  rw [instLog, List.filter_append, List.filter_append,
    block fun e he => by obtain ⟨_, _, c, _, ev, hc, rfl⟩ := mem_instSettings he; exact hs _ c ev hc,
    block fun e he => by obtain ⟨n, x, rfl⟩ := mem_instOns he; exact hon ..,
    block fun e he => by obtain ⟨n, x, rfl⟩ := mem_instOffs he; exact hoff ..]

/-- **the piece timeline, or what a filter `p` leaves of it, is the concatenation, instance by instance, of:
settings at the instance's start, note-ons at its start, note-offs at its end — with the start of instance j the
sum of the lengths before it and the key / dynamic in force the most recent one at or before it**.  `F` is any
way of writing "the filtered events of instance `j`" (the theorems that use this spell it with a `match` on `is[j]?`). -/
theorem pieceLog_filter_by_instance (τ : List Rat' → Nat) (d : Dict) (p : LogE → Bool) : ∀ (is : List Instance) (T : Nat)
    (first : Bool) (k0 : Key) (v0 : Dyn) (F : Nat → List LogE),
    (∀ j i, is[j]? = some i → F j = (instLog τ d T first k0 v0 is j i).filter p) →
      (pieceLog τ d T first k0 v0 is).filter p = (List.range is.length).flatMap F
  | [], _, _, _, _, _, _ => by simp [pieceLog]
  | i :: is, T, first, k0, v0, F, hF => by
    rw [pieceLog_cons, List.filter_append, List.length_cons, List.range_succ_eq_map, List.flatMap_cons, List.flatMap_map,
      hF 0 i rfl]
    congr 1
    · simp [instLog, startAt, totalTicks, keyAt_zero, dynAt_zero]
    · refine pieceLog_filter_by_instance τ d p is _ _ _ _ _ fun j x hx => ?_
      refine (hF (j + 1) x (by simpa using hx)).trans ?_
      simp [instLog, keyAt_succ, dynAt_succ, startAt, totalTicks, Nat.add_assoc]

theorem pieceLog_by_instance (τ : List Rat' → Nat) (d : Dict) (is : List Instance) (T : Nat) (first : Bool) (k0 : Key) (v0 : Dyn)
    (F : Nat → List LogE) (hF : ∀ j i, is[j]? = some i → F j = instLog τ d T first k0 v0 is j i) :
    pieceLog τ d T first k0 v0 is = (List.range is.length).flatMap F := by
  have ht : ∀ l : List LogE, l.filter (fun _ => true) = l := fun l => List.filter_eq_self.2 fun _ _ => rfl
  simpa only [ht] using pieceLog_filter_by_instance τ d (fun _ => true) is T first k0 v0 F (by simpa only [ht] using hF)

namespace Props.C06

/-- the reference timeline of a run: the writer's three initial events, then the piece -/
def refTimeline (f : WriteFlags) (d : Dict) (is' : List Instance) : List LogE :=
  initLog f.instrument f.program defaultSequenceName ++ pieceLog goTicks d 0 true defaultKey defaultVelocity is'

end Props.C06
open Props.C06 (refTimeline)

theorem forall_mem_refTimeline {P : LogE → Prop} {f : WriteFlags} {d : Dict} {is' : List Instance} :
    (∀ e ∈ refTimeline f d is', P e) ↔
      P (0, .metaT, .seqName defaultSequenceName) ∧ P (0, .metaT, .instrument f.instrument) ∧ P (0, .metaT, .program 0 f.program) ∧
      ∀ e ∈ pieceLog goTicks d 0 true defaultKey defaultVelocity is', P e := by
  simp [refTimeline, initLog]

/-- track `i` of `N` when `crd write` has played the prepared instances `is'` with dictionary `d`: nothing is
pending, it has run for the length of the piece, and it holds its share of the reference timeline, then its end of track -/
structure TrackRun (f : WriteFlags) (d : Dict) (is' : List Instance) (N i : Nat) (t : Track) : Prop where
  pending : t.pending = 0
  clock : t.clock = totalTicks goTicks is'
  timeline : t.timeline = share N i (refTimeline f d is') ++ [(totalTicks goTicks is', .close)]

/-- what `cmdWriteTracks f is = .ok tracks` says; `d` is the dictionary the run built -/
structure WriteRun (f : WriteFlags) (is : List Instance) (tracks : List Track) (d : Dict) : Prop where
  prep : Prepared f is d f.track.toNat (prepared f is)
  /-- the bound `WriteTo` checks (D22 fix) -/
  fits : totalTicks goTicks (prepared f is) ≤ maxTicks
  length : tracks.length = f.track.toNat
  track : ∀ i t, tracks[i]? = some t → TrackRun f d (prepared f is) f.track.toNat i t

theorem WriteRun.of_mem {f : WriteFlags} {is : List Instance} {tracks : List Track} {d : Dict} (r : WriteRun f is tracks d)
    {t : Track} (ht : t ∈ tracks) : ∃ i, TrackRun f d (prepared f is) f.track.toNat i t :=
  let ⟨i, hi⟩ := List.mem_iff_getElem?.1 ht
  ⟨i, r.track i t hi⟩

/-- **end-to-end refinement of `crd write` (model)**, as a `WriteRun`: `prepareWrite` by `prepareWrite_ok`, `play`
against `specLoop_log`, the writer against `tracks_refine` -/
theorem write_run {f : WriteFlags} {is : List Instance} {tracks : List Track} (h : cmdWriteTracks f is = .ok tracks) :
    ∃ d, WriteRun f is tracks d := by
  obtain ⟨d, N, is', calls, hp, hw, hfit, rfl⟩ := cmdWriteTracks_ok h
  have hp := prepareWrite_ok.mp hp
  obtain rfl := hp.count
  obtain rfl := hp.instances
  rw [playWrite_eq_spec] at hw
  split at hw
  · cases hw
  obtain ⟨body, rfl, hwf, hlog⟩ := specLoop_log goTicks d _ true defaultKey defaultVelocity calls hw
  obtain ⟨hlen, hr⟩ := tracks_refine goTicks f.track.toNat f.instrument f.program defaultSequenceName body hwf
  refine ⟨d, hp, hfit, hlen, fun i t ht => ?_⟩
  obtain ⟨h0, hc, htl⟩ := hr i t ht
  simp only [(hlog 0).1, (hlog 0).2, Nat.zero_add] at hc htl
  exact ⟨h0, hc, htl⟩

/-- `write_run` spelled out without the structures: whenever the command succeeds, with `N` tracks, track `i`
holds exactly the events of the piece's reference timeline that the selector routes to it, at their reference
ticks and in order, followed by its end-of-track at the total duration of the piece -/
theorem write_refines (f : WriteFlags) (is : List Instance) (tracks : List Track) (h : cmdWriteTracks f is = .ok tracks) :
    ∃ (d : Dict) (N : Nat) (is' : List Instance), prepareWrite f is = .ok (d, N, is') ∧ 1 ≤ N ∧ N ≤ maxTracks ∧
      tracks.length = N ∧
      ∀ i, i < N → ∃ t, tracks[i]? = some t ∧ t.pending = 0 ∧
        t.timeline =
          ((initLog f.instrument f.program defaultSequenceName ++
              pieceLog goTicks d 0 true defaultKey defaultVelocity is').filter (fun e => route N e = i)).map stripT ++
          [(totalTicks goTicks is', .close)] := by
  obtain ⟨d, r⟩ := write_run h
  refine ⟨d, _, _, prepareWrite_ok.mpr r.prep, r.prep.count_pos, r.prep.count_le, r.length, fun i hi => ?_⟩
  have ht := List.getElem?_eq_getElem (r.length ▸ hi)
  exact ⟨_, ht, (r.track i _ ht).pending, (r.track i _ ht).timeline⟩

end Crd
