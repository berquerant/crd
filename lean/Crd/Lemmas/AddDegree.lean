import Crd.Lemmas.Degree

/-!
# `Note.AddDegree`: pitch-class/octave split and spelling preference (C15, `info attr|chord describe`)
-/
namespace Crd
open Spec

theorem majorScale_bounds (st : Nat) : 0 ≤ majorScale st ∧ (perfectClass st = false → 2 ≤ majorScale st) := by
  unfold majorScale perfectClass
  split <;> simp

/-- the smallest interval is the doubly diminished unison, two semitones down -/
theorem spec_ge (n : Nat) (q : Quality) (v : Int) (h : specSize n q = some v) : -2 ≤ v := by
  unfold specSize at h
  split at h
  · cases h
  obtain ⟨h0, h2⟩ := majorScale_bounds ((n - 1) % 7)
  have ho : (0 : Int) ≤ ((n - 1) / 7 : Nat) := Int.natCast_nonneg _
  dsimp only at h
  cases hp : perfectClass ((n - 1) % 7) with
  | true => cases q <;> simp only [hp, Option.some.injEq, reduceCtorEq] at h <;> omega
  | false =>
    have := h2 hp
    cases q <;> simp only [hp, Option.some.injEq, reduceCtorEq] at h <;> omega

def roots : List Note :=
  Letter.all.flatMap fun l => [⟨l, .natural⟩, ⟨l, .sharp⟩, ⟨l, .flat⟩]

/-- is there a natural letter with this pitch class? (spec side) -/
def naturalAt (pc : Int) : Bool := Letter.all.any fun l => naturalPitch l == pc

theorem spelling_ok : ∀ pc ∈ List.range 12, ∀ pref : Bool,
    ∃ r : Note, ((if pref then [NAcc.natural, .sharp, .flat] else [NAcc.natural, .flat, .sharp]).findSome?
        (fun b => (findNameBySemitone (pc : Int) b).map (fun x => Note.mk x b))) = some r ∧
      r.semitone? = some (pc : Int) ∧
      (if naturalAt pc then r.acc = .natural else r.acc = (if pref then .sharp else .flat)) := by
  decide

theorem root_semitones : ∀ r ∈ roots, ∃ v : Int, r.semitone? = some v ∧ -1 ≤ v ∧ v ≤ 12 := by decide

/-- `Semitone.Octave` and `Semitone.WithoutOctave` split a pitch into octave and pitch class.  Not below -11:
`withoutOctave (-12) = 12`, as in tone.go; `AddDegree` never goes below -3. -/
theorem octave_split {s : Int} (h : -12 < s) :
    0 ≤ withoutOctave s ∧ withoutOctave s < 12 ∧ 12 * octaveOf s + withoutOctave s = s := by
  unfold withoutOctave octaveOf
  rw [oct12]
  by_cases h0 : s ≥ 0
  · simp only [h0, if_true]
    have := Int.mul_tdiv_add_tmod s 12
    exact ⟨Int.tmod_nonneg _ h0, Int.tmod_lt_of_pos _ (by decide), by omega⟩
  · simp only [h0, if_false]
    have : s = -1 ∨ s = -2 ∨ s = -3 ∨ s = -4 ∨ s = -5 ∨ s = -6 ∨ s = -7 ∨ s = -8 ∨ s = -9 ∨ s = -10 ∨ s = -11 := by omega
    rcases this with rfl | rfl | rfl | rfl | rfl | rfl | rfl | rfl | rfl | rfl | rfl <;> decide

/-- **C15**: adding a valid interval to any root (7 letters × natural/sharp/flat): the reported note and
octave offset have exactly the pitch `root + interval`, spelled natural when a natural letter has that pitch
class and otherwise with the requested accidental — which always exists.  No bound on the interval number. -/
theorem addDegree_pitch (root : Note) (hr : root ∈ roots) (d : Degree) (hv : d.valid) (pref : Bool) :
    ∃ (r : Note) (oct pc rs ds : Int),
      root.addDegree d pref = .ok r oct ∧ root.semitone? = some rs ∧ d.semitone = some ds ∧
      r.semitone? = some pc ∧ 0 ≤ pc ∧ pc < 12 ∧ 12 * oct + pc = rs + ds ∧
      (if naturalAt pc then r.acc = .natural else r.acc = (if pref then .sharp else .flat)) := by
  obtain ⟨rs, hrs, hlo, hhi⟩ := root_semitones root hr
  obtain ⟨ds, hds⟩ : ∃ ds, d.semitone = some ds := by
    unfold Degree.valid at hv; cases h : d.semitone <;> simp_all
  have hge : -2 ≤ ds := spec_ge d.value d.name ds (by rw [← semitone_eq_spec]; exact hds)
  generalize hsd : rs + ds = s
  obtain ⟨hp0, hp12, hsplit⟩ := octave_split (s := s) (by omega)
  obtain ⟨pcn, hpcn⟩ : ∃ k : Nat, withoutOctave s = (k : Int) := ⟨(withoutOctave s).toNat, by omega⟩
  have hk : pcn ∈ List.range 12 := by simp; omega
  obtain ⟨r, hfind, hsem, hacc⟩ := spelling_ok pcn hk pref
  refine ⟨r, octaveOf s, (pcn : Int), rs, ds, ?_, hrs, hds, hsem, by omega, by omega, by omega, hacc⟩
  unfold Note.addDegree
  simp only [hds, hrs, hsd, hpcn]
  cases pref <;> simp_all

end Crd
