import Crd.Lemmas.SmfTrack

/-!
# The strict reader on a whole written file: header, chunks, every track; then on what `smfEncode` writes
-/
namespace Crd
open Crd.Spec

theorem be_zero (n : Nat) : Crd.be 0 n = [] := rfl

theorem be_succ (w n : Nat) : Crd.be (w + 1) n = n / 256 ^ w % 256 :: Crd.be w n := by
  simp [Crd.be, List.range_succ]

theorem be_bytes {w n : Nat} : ∀ b ∈ Crd.be w n, b < 256 := by
  simp only [Crd.be, List.forall_mem_map]
  exact fun _ _ => Nat.mod_lt _ (by decide)

theorem foldl_be (w n acc : Nat) : (Crd.be w n).foldl (fun a b => a * 256 + b) acc = acc * 256 ^ w + n % 256 ^ w := by
  induction w generalizing acc with
  | zero => simp [be_zero, Nat.mod_one]
  | succ w ih =>
    rw [be_succ, List.foldl_cons, ih, Nat.mod_pow_succ, Nat.pow_succ, Nat.add_mul, Nat.mul_assoc, Nat.mul_comm 256,
      Nat.mul_comm (256 ^ w) (n / 256 ^ w % 256)]
    omega

theorem be_be (w n : Nat) (h : n < 256 ^ w) : Spec.be (Crd.be w n) = n := by
  rw [Spec.be, foldl_be, Nat.zero_mul, Nat.zero_add, Nat.mod_eq_of_lt h]

theorem mtrk_bytes : strBytes "MTrk" = [0x4D, 0x54, 0x72, 0x6B] := by decide
theorem mthd_bytes : strBytes "MThd" = [0x4D, 0x54, 0x68, 0x64] := by decide

theorem chunk_mthd (a b c : Nat) : chunk "MThd" (Crd.be 2 a ++ Crd.be 2 b ++ Crd.be 2 c) =
    [0x4D, 0x54, 0x68, 0x64, 0, 0, 0, 6, a / 256 % 256, a % 256, b / 256 % 256, b % 256, c / 256 % 256, c % 256] := by
  simp [chunk, mthd_bytes, be_succ, be_zero]

theorem readChunks_chunk (f : Nat) {n : Nat} {data rest : Bytes} (h : data.length < 2 ^ 32) :
    readChunks (f + 1) (n + 1) (chunk "MTrk" data ++ rest) =
      (do let evs ← readEvents (data.length + 1) 0 data
          let r ← readChunks f n rest
          pure (evs :: r)) := by
  have hbe := be_be 4 data.length h
  simp only [be_succ, be_zero] at hbe
  simp only [chunk, mtrk_bytes, be_succ, be_zero, List.cons_append, List.nil_append, readChunks, hbe, List.take_left,
    List.drop_left, Nat.lt_irrefl, if_false]

/-- a track the reader can take: closed, deltas and meta lengths fit, chunk shorter than 4 GiB -/
def TrackOK (t : List (Nat × Ev)) : Prop :=
  Closed t ∧ (∀ x ∈ t, x.1 ≤ 0x0FFFFFFF ∧ EvOK x.2) ∧ (trackData 0 t).length < 2 ^ 32

theorem readChunks_tracks : ∀ (ts : List (List (Nat × Ev))) (f : Nat), (∀ t ∈ ts, TrackOK t) → ts.length ≤ f →
    readChunks f ts.length (ts.flatMap fun t => chunk "MTrk" (trackData 0 t)) = .ok (ts.map (·.map toS)) := by
  intro ts
  induction ts with
  | nil => intro f _ _; cases f <;> simp [readChunks]
  | cons t ts ih =>
    intro f hok hf
    obtain ⟨f, rfl⟩ : ∃ f', f = f' + 1 := ⟨f - 1, by simp at hf; omega⟩
    obtain ⟨hcl, hev, hsz⟩ := hok t (by simp)
    rw [List.flatMap_cons, List.length_cons, readChunks_chunk f hsz,
      readEvents_track t _ 0 hcl hev (by have := trackData_length_ge 0 t; omega),
      ih f (fun t' ht' => hok t' (by simp [ht'])) (by simp at hf; omega)]
    rfl

theorem trackData_bytes (evs : List (Nat × Ev)) (h : ∀ x ∈ evs, ∀ b ∈ x.2.bytes, b < 256) :
    ∀ st, ∀ b ∈ trackData st evs, b < 256 := by
  induction evs with
  | nil => simp [trackData]
  | cons x r ih =>
    intro st
    have he := h x (by simp)
    have hr := ih (fun y hy => h y (by simp [hy]))
    have hdrop : ∀ b ∈ x.2.bytes.drop 1, b < 256 := fun b hb => he b (List.mem_of_mem_drop hb)
    simp only [trackData]
    repeat' split
    all_goals simp only [List.forall_mem_append]; exact ⟨⟨vlq_bytes' _, ‹_›⟩, hr _⟩

theorem char_lt (c : Char) : c.toNat < 0x110000 := by
  have := c.valid
  unfold UInt32.isValidChar Nat.isValidChar at this
  show c.val.toNat < 0x110000
  omega

theorem utf8Char_bytes (c : Char) : ∀ b ∈ utf8Char c, b < 256 := by
  have hc := char_lt c
  unfold utf8Char
  simp only
  repeat' split
  all_goals simp only [List.mem_cons, List.mem_nil_iff, or_false, forall_eq_or_imp, forall_eq]; omega

theorem strBytes_bytes (s : String) : ∀ b ∈ strBytes s, b < 256 := by
  simp only [strBytes, List.forall_mem_flatMap]
  exact fun c _ => utf8Char_bytes c

theorem chunk_bytes {typ : String} {data : Bytes} (hd : ∀ b ∈ data, b < 256) : ∀ b ∈ chunk typ data, b < 256 := by
  simp only [chunk, List.forall_mem_append]
  exact ⟨⟨strBytes_bytes typ, be_bytes⟩, hd⟩

/-- **the strict reader accepts the encoder's file and recovers format, division and every event of every track** -/
theorem parse_encode (tpq : Nat) (ts : List (List (Nat × Ev))) (hN : 1 ≤ ts.length ∧ ts.length ≤ 65535)
    (htpq : 1 ≤ tpq ∧ tpq < 32768) (hok : ∀ t ∈ ts, TrackOK t)
    (hb : ∀ t ∈ ts, ∀ x ∈ t, ∀ b ∈ x.2.bytes, b < 256) :
    parseSMF (chunk "MThd" (Crd.be 2 (if ts.length > 1 then 1 else 0) ++ Crd.be 2 (ts.length % 65536) ++ Crd.be 2 (min tpq 32767))
        ++ ts.flatMap fun t => chunk "MTrk" (trackData 0 t)) =
      .ok ⟨if ts.length > 1 then 1 else 0, tpq, ts.map (·.map toS)⟩ := by
  have hall : ∀ b ∈ chunk "MThd" (Crd.be 2 (if ts.length > 1 then 1 else 0) ++ Crd.be 2 (ts.length % 65536) ++ Crd.be 2 (min tpq 32767))
        ++ ts.flatMap fun t => chunk "MTrk" (trackData 0 t), b < 256 := by
    simp only [List.forall_mem_append, List.forall_mem_flatMap]
    exact ⟨chunk_bytes (by simp only [List.forall_mem_append]; exact ⟨⟨be_bytes, be_bytes⟩, be_bytes⟩),
      fun t ht => chunk_bytes (trackData_bytes t (hb t ht) 0)⟩
  have hmin : min tpq 32767 = tpq := by omega
  have hmod : ts.length % 65536 = ts.length := by omega
  rw [hmod, hmin] at hall ⊢
  generalize hfmt : (if ts.length > 1 then 1 else 0 : Nat) = fmt at hall ⊢
  have f2 := be_be 2 fmt (by rw [← hfmt]; split <;> decide)
  have n2 := be_be 2 ts.length (by omega)
  have d2 := be_be 2 tpq (by omega)
  simp only [be_succ, be_zero, Nat.pow_one, Nat.pow_zero, Nat.div_one] at f2 n2 d2
  rw [chunk_mthd] at hall ⊢
  simp only [List.cons_append, List.nil_append] at hall ⊢
  rw [parseSMF]
  have c1 : ¬ ts.length = 0 := by omega
  have c2 : ¬ (fmt = 0 ∧ ts.length ≠ 1) := by rw [← hfmt]; split <;> omega
  have c3 : ¬ (fmt ≠ 0 ∧ (fmt ≠ 1 ∨ ts.length = 1)) := by rw [← hfmt]; split <;> omega
  have c4 : ¬ (tpq = 0 ∨ tpq ≥ 32768) := by omega
  simp only [List.all_eq_true.mpr fun b hb => decide_eq_true (hall b hb), not_true_eq_false, if_false, f2, n2, d2, c1, c2, c3, c4,
    readChunks_tracks ts (ts.length + 1) hok (by omega)]
  rfl

theorem smfTrack_closed : ∀ (t : List (Nat × Ev)), Closed t → smfTrack t = t ∧ isClosed t = true
  | [], h => h.elim
  | [(d, e)], h => by cases (show e = .close from h); exact ⟨rfl, rfl⟩
  | (d, e) :: y :: r, h => by
    obtain ⟨h1, h2⟩ := smfTrack_closed (y :: r) h.2
    have : smfTrack ((d, e) :: y :: r) = (d, e) :: smfTrack (y :: r) := by
      cases e <;> first | rfl | exact absurd rfl h.1
    exact ⟨by rw [this, h1], by rw [isClosed, List.getLast?_cons_cons]; exact h2⟩

/-- **the strict reader accepts what `smfEncode` makes of closed tracks and recovers them** -/
theorem parse_smfEncode (tpq : Nat) (tracks : List Track) (hN : 1 ≤ tracks.length ∧ tracks.length ≤ 65535)
    (htpq : 1 ≤ tpq ∧ tpq < 32768) (hok : ∀ t ∈ tracks, TrackOK t.ops)
    (hb : ∀ t ∈ tracks, ∀ x ∈ t.ops, ∀ b ∈ x.2.bytes, b < 256) :
    ∃ bytes, smfEncode tpq tracks = some bytes ∧
      parseSMF bytes = .ok ⟨if tracks.length > 1 then 1 else 0, tpq, tracks.map fun t => t.ops.map toS⟩ := by
  -- closed tracks go out as they are
  have hsm : tracks.map (fun t => smfTrack t.ops) = tracks.map (·.ops) :=
    List.map_congr_left fun t ht => (smfTrack_closed t.ops (hok t ht).1).1
  have hne : (tracks.map (·.ops)).isEmpty = false := by cases tracks <;> simp_all
  have hcl : (tracks.map (·.ops)).any (fun t => !isClosed t) = false := by
    simp only [List.any_map, List.any_eq_false, Function.comp_apply]
    exact fun t ht => by simp [(smfTrack_closed t.ops (hok t ht).1).2]
  refine ⟨_, by simp only [smfEncode, hsm, hne, hcl, Bool.or_false, Bool.false_eq_true, if_false]; rfl, ?_⟩
  rw [parse_encode tpq (tracks.map (·.ops)) (by rw [List.length_map]; exact hN) htpq (List.forall_mem_map.mpr hok)
    (List.forall_mem_map.mpr hb), List.length_map, List.map_map]
  rfl

end Crd
