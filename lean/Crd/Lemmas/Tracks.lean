import Crd.Model.Play

/-!
# Refinement of the `midix` writer to a reference timeline (C02, C06, C07, C08)

`refLog τ T calls` is the specification: a flat log of (absolute tick, routing type, event) computed from
the writer calls alone — independent of the number of tracks.  `tracks_refine` shows that for ANY tick function τ,
ANY track count and any well-formed call list (`BodyWF`: no close inside, every note has a key) followed by `Close`,
after running the calls on the model of `midix.MIDIWriter` every track's timeline is exactly its `share` of the log
(the entries routed to it, order preserved) followed by its end of track at the reference end time.  The invariant
(`Sync`): all tracks have the same clock and hold their shares.
`buckets_perm`: distributing a list over `N` buckets by a routing function and merging again is a permutation.
-/
namespace Crd

def Track.clock (t : Track) : Nat := (t.ops.map (·.1)).sum + t.pending

def absTimes : Nat → List (Nat × Ev) → List (Nat × Ev)
  | _, [] => []
  | c, (d, e) :: r => (c + d, e) :: absTimes (c + d) r

def Track.timeline (t : Track) : List (Nat × Ev) := absTimes 0 t.ops

theorem absTimes_append (c : Nat) (a b : List (Nat × Ev)) :
    absTimes c (a ++ b) = absTimes c a ++ absTimes (c + (a.map (·.1)).sum) b := by
  induction a generalizing c with
  | nil => simp [absTimes]
  | cons x xs ih => obtain ⟨d, e⟩ := x; simp [absTimes, ih, Nat.add_assoc]

theorem absTimes_events (c : Nat) (ops : List (Nat × Ev)) : (absTimes c ops).map (·.2) = ops.map (·.2) := by
  induction ops generalizing c with
  | nil => rfl
  | cons x r ih => obtain ⟨d, e⟩ := x; simp [absTimes, ih]

theorem clock_add (t : Track) (d : Nat) (e : Ev) : (t.add d e).clock = t.clock + d := by
  simp [Track.clock, Track.add, List.sum_append]; omega

theorem clock_delay (t : Track) (d : Nat) : (t.delay d).clock = t.clock + d := by
  simp [Track.clock, Track.delay]; omega

theorem delta_le_clock (t : Track) : ∀ x ∈ t.ops, x.1 ≤ t.clock := by
  obtain ⟨p, ops⟩ := t
  intro x hx
  induction ops with
  | nil => cases hx
  | cons y r ih =>
    simp only [Track.clock, List.map_cons, List.sum_cons] at ih ⊢
    rcases List.mem_cons.mp hx with rfl | h
    · omega
    · have := ih h; omega

theorem timeline_add (t : Track) (d : Nat) (e : Ev) : (t.add d e).timeline = t.timeline ++ [(t.clock + d, e)] := by
  simp only [Track.timeline, Track.add, absTimes_append, Track.clock]
  simp [absTimes]; omega

theorem timeline_delay (t : Track) (d : Nat) : (t.delay d).timeline = t.timeline := rfl

/-- log entry: absolute tick, routing type, event -/
abbrev LogE := Nat × OpT × Ev

def route (N : Nat) (e : LogE) : Nat := selectTrack N e.2.1
def stripT (e : LogE) : Nat × Ev := (e.1, e.2.2)

theorem route_of_meta {N : Nat} {e : LogE} (h : e.2.1 = .metaT) : route N e = 0 := by
  simp [route, h, selectTrack]

/-- the part of a log that goes to track `i` of `N`: order kept, routing types dropped -/
def share (N i : Nat) (log : List LogE) : List (Nat × Ev) := (log.filter fun e => route N e = i).map stripT

theorem share_append (N i : Nat) (a b : List LogE) : share N i (a ++ b) = share N i a ++ share N i b := by
  simp [share]

/-- the events `addFixedList` emits at one instant: key j goes out as `fixed (i + j)` -/
def fixedEvs (mk : Nat → Ev) (T : Nat) : Nat → List Nat → List LogE
  | _, [] => []
  | i, k :: ks => (T, .fixed i, mk k) :: fixedEvs mk T (i + 1) ks

/-- `fixedEvs` without the recursion; every other fact about it is a fact about `map` and `zipIdx` -/
theorem fixedEvs_eq_map (mk : Nat → Ev) (T : Nat) : ∀ (i : Nat) (ks : List Nat),
    fixedEvs mk T i ks = (ks.zipIdx i).map fun p => (T, .fixed p.2, mk p.1)
  | _, [] => rfl
  | i, k :: ks => by simp [fixedEvs, fixedEvs_eq_map mk T (i + 1) ks]

theorem mem_fixedEvs {mk : Nat → Ev} {T i : Nat} {ks : List Nat} {e : LogE} (h : e ∈ fixedEvs mk T i ks) :
    ∃ n, ∃ k ∈ ks, e = (T, .fixed n, mk k) := by
  rw [fixedEvs_eq_map, List.mem_map] at h
  obtain ⟨p, hp, rfl⟩ := h
  exact ⟨p.2, p.1, List.fst_mem_of_mem_zipIdx hp, rfl⟩

theorem fixedEvs_stripT (mk : Nat → Ev) (T i : Nat) (ks : List Nat) :
    (fixedEvs mk T i ks).map stripT = ks.map fun k => (T, mk k) := by
  rw [fixedEvs_eq_map, List.map_map, ← List.zipIdx_map_fst i ks, List.map_map, List.zipIdx_map_fst]; rfl

def WCall.metaEv : WCall → Option Ev
  | .tempo b => some (.tempo b) | .meter n d => some (.meter n d) | .keySig k ma n fl => some (.keySig k ma n fl)
  | .text s => some (.text s) | .lyric s => some (.lyric s) | .marker s => some (.marker s)
  | _ => none

/-- **specification**: the timeline a call list denotes, for a tick function τ, starting at time T -/
def refLog (τ : List Rat' → Nat) : Nat → List WCall → List LogE
  | _, [] => []
  | T, .rest vs :: r => refLog τ (T + τ vs) r
  | T, .note vs vel keys :: r =>
      fixedEvs (fun k => .noteOn 0 k vel) T 0 keys ++ fixedEvs (fun k => .noteOff 0 k) (T + τ vs) 0 keys ++ refLog τ (T + τ vs) r
  | T, .close :: r => refLog τ T r
  | T, c :: r => (match c.metaEv with | some e => [(T, .metaT, e)] | none => []) ++ refLog τ T r

def refEnd (τ : List Rat' → Nat) : Nat → List WCall → Nat
  | T, [] => T
  | T, .rest vs :: r => refEnd τ (T + τ vs) r
  | T, .note vs _ _ :: r => refEnd τ (T + τ vs) r
  | T, _ :: r => refEnd τ T r

/-- the six setting calls are treated alike by the writer, by `refLog` and by `refEnd` -/
theorem cons_meta (τ : List Rat' → Nat) {c : WCall} {e : Ev} (h : c.metaEv = some e) (r : List WCall) :
    (∀ w, runCalls τ w (c :: r) = runCalls τ (w.emitMeta e) r) ∧
    (∀ T, refLog τ T (c :: r) = (T, .metaT, e) :: refLog τ T r) ∧ ∀ T, refEnd τ T (c :: r) = refEnd τ T r := by
  cases c <;> simp [WCall.metaEv] at h <;> subst h <;> exact ⟨fun _ => rfl, fun _ => rfl, fun _ => rfl⟩

theorem refLog_append (τ : List Rat' → Nat) (a b : List WCall) : ∀ T,
    refLog τ T (a ++ b) = refLog τ T a ++ refLog τ (refEnd τ T a) b ∧ refEnd τ T (a ++ b) = refEnd τ (refEnd τ T a) b := by
  induction a with
  | nil => intro T; exact ⟨rfl, rfl⟩
  | cons c a ih =>
    intro T
    cases hm : c.metaEv with
    | some e =>
      obtain ⟨_, h2, h3⟩ := cons_meta τ hm (a ++ b)
      obtain ⟨_, h2', h3'⟩ := cons_meta τ hm a
      rw [List.cons_append, h2, h3, h2', h3', (ih T).1, (ih T).2]; exact ⟨rfl, rfl⟩
    | none => cases c <;> simp [WCall.metaEv] at hm <;> simp [refLog, refEnd, ih]

/-- there are `N` tracks, all at clock `c`, each holding exactly its share of the log -/
def Sync (N : Nat) (ts : List Track) (c : Nat) (log : List LogE) : Prop :=
  ts.length = N ∧ ∀ i t, ts[i]? = some t → t.clock = c ∧ t.timeline = share N i log

/-- `TrackSet.Add` keeps the tracks in step: the one selected takes the event, the others the delay -/
theorem Sync.addOp {N c : Nat} {w : MW} {log : List LogE} (h : Sync N w.tracks c log) (d : Nat) (ty : OpT) (e : Ev) :
    Sync N (w.addOp d ty e).tracks (c + d) (log ++ [(c + d, ty, e)]) := by
  obtain rfl := h.1
  refine ⟨by simp [MW.addOp, MW.n, addTo], fun i t' ht' => ?_⟩
  simp only [MW.addOp, MW.n, addTo, List.getElem?_mapIdx, Option.map_eq_some_iff] at ht'
  obtain ⟨t, ht, rfl⟩ := ht'
  obtain ⟨hc, htl⟩ := h.2 i t ht
  rw [share_append, ← htl, ← hc]
  by_cases hr : selectTrack w.tracks.length ty = i
  · simp [hr, clock_add, timeline_add, share, route, stripT]
  · simp [hr, Ne.symm hr, clock_delay, timeline_delay, share, route]

theorem addFixedList_pending (mk : Nat → Ev) (first : Nat) : ∀ (keys : List Nat) (i : Nat) (w : MW),
    (addFixedList mk first i keys w).pending = w.pending
  | [], _, _ => rfl
  | _ :: ks, i, _ => addFixedList_pending mk first ks (i + 1) _

/-- the loops of `Note` after their first iteration: all deltas are 0 -/
theorem Sync.fixedTail {N c : Nat} (mk : Nat → Ev) (first : Nat) : ∀ (keys : List Nat) (i : Nat) (w : MW) (log : List LogE),
    1 ≤ i → Sync N w.tracks c log → Sync N (addFixedList mk first i keys w).tracks c (log ++ fixedEvs mk c i keys)
  | [], _, _, _, _, h => by simpa [addFixedList, fixedEvs] using h
  | k :: ks, i, w, log, hi, h => by
    have h1 := h.addOp 0 (.fixed i) (mk k)
    have := Sync.fixedTail mk first ks (i + 1) _ _ (by omega) h1
    simpa [addFixedList, fixedEvs, Nat.ne_of_gt hi] using this

/-- a whole `addFixedList` loop on a non-empty key list: the first op carries the delta -/
theorem Sync.fixedList {N c : Nat} {w : MW} {log : List LogE} (h : Sync N w.tracks c log) (mk : Nat → Ev) (first : Nat)
    {keys : List Nat} (hk : keys ≠ []) :
    Sync N (addFixedList mk first 0 keys w).tracks (c + first) (log ++ fixedEvs mk (c + first) 0 keys) := by
  obtain ⟨k, ks, rfl⟩ := List.exists_cons_of_ne_nil hk
  have := Sync.fixedTail mk first ks 1 _ _ (Nat.le_refl 1) (h.addOp first (.fixed 0) (mk k))
  simpa [addFixedList, fixedEvs] using this

/-- what the proof needs of a call list before `Close`: no `Close` inside, and every note has at least one key
(play always emits the bass) -/
def BodyWF (calls : List WCall) : Prop := ∀ c ∈ calls, c ≠ .close ∧ ∀ vs vel, c ≠ .note vs vel []

/-- **refinement**: running close-free calls keeps every track in step with the reference log; `T` is the
reference time, the common clock plus the writer's pending delta -/
theorem runCalls_sync {N : Nat} (τ : List Rat' → Nat) : ∀ (calls : List WCall) (w : MW) (c T : Nat) (log : List LogE),
    Sync N w.tracks c log → c + w.pending = T → BodyWF calls →
      ∃ c', Sync N (runCalls τ w calls).tracks c' (log ++ refLog τ T calls) ∧
        c' + (runCalls τ w calls).pending = refEnd τ T calls
  | [], w, c, T, log, h, hT, _ => ⟨c, by simpa [refLog, runCalls] using h, hT⟩
  | x :: xs, w, c, T, log, h, hT, hwf => by
    have hwf' : BodyWF xs := fun y hy => hwf y (List.mem_cons_of_mem _ hy)
    subst hT
    cases hm : x.metaEv with
    | some e =>
      obtain ⟨h1, h2, h3⟩ := cons_meta τ hm xs
      have := runCalls_sync τ xs (w.emitMeta e) _ (c + w.pending) _ (h.addOp w.pending .metaT e) rfl hwf'
      simpa [h1, h2, h3] using this
    | none =>
      cases x with
      | rest vs =>
        have := runCalls_sync τ xs (w.rest (τ vs)) c _ log h (Nat.add_assoc ..).symm hwf'
        simpa [runCalls, refLog, refEnd] using this
      | note vs vel keys =>
        have hk : keys ≠ [] := fun hk => (hwf _ (List.mem_cons_self ..)).2 vs vel (hk ▸ rfl)
        have h0 : Sync N ({ w with pending := 0 } : MW).tracks c log := h
        have h2 := (h0.fixedList (fun k => Ev.noteOn 0 k vel) w.pending hk).fixedList (fun k => Ev.noteOff 0 k) (τ vs) hk
        have hp : (w.note (τ vs) vel keys).pending = 0 := by
          simp only [MW.note, addFixedList_pending]
        have := runCalls_sync τ xs (w.note (τ vs) vel keys) _ (c + w.pending + τ vs) _ h2 (by rw [hp]; rfl) hwf'
        simpa [runCalls, refLog, refEnd, List.append_assoc] using this
      | close => exact absurd rfl (hwf _ (List.mem_cons_self ..)).1
      | _ => simp [WCall.metaEv] at hm

theorem runCalls_append (τ : List Rat' → Nat) (a b : List WCall) : ∀ w, runCalls τ w (a ++ b) = runCalls τ (runCalls τ w a) b := by
  induction a with
  | nil => intro w; rfl
  | cons x xs ih => intro w; simp only [List.cons_append, runCalls]; exact ih _

/-- the three events `NewWriter` puts on the meta track -/
def initLog (instrument : String) (program : Nat) (seq : String) : List LogE :=
  [(0, .metaT, .seqName seq), (0, .metaT, .instrument instrument), (0, .metaT, .program 0 program)]

theorem new_sync (N : Nat) (instrument : String) (program : Nat) (seq : String) :
    Sync N (MW.new N instrument program seq).tracks 0 (initLog instrument program seq) := by
  have h0 : Sync N (⟨0, List.replicate N {}⟩ : MW).tracks 0 [] :=
    ⟨by simp, fun i t ht => by rw [List.getElem?_replicate] at ht; split at ht <;> cases ht; exact ⟨rfl, rfl⟩⟩
  exact ((h0.addOp 0 .metaT (.seqName seq)).addOp 0 .metaT (.instrument instrument)).addOp 0 .metaT (.program 0 program)

/-- **the whole run**: for any tick function, any track count, any instrument/program and any well-formed
call list `body` followed by `Close`, track `i` holds exactly the sub-list of the reference log routed to it
(order preserved) and ends with its end-of-track at the reference end time -/
theorem tracks_refine (τ : List Rat' → Nat) (N : Nat) (instrument : String) (program : Nat) (seq : String)
    (body : List WCall) (hwf : BodyWF body) :
    let w := runCalls τ (MW.new N instrument program seq) (body ++ [.close])
    w.tracks.length = N ∧
    ∀ i t, w.tracks[i]? = some t → t.pending = 0 ∧ t.clock = refEnd τ 0 body ∧
      t.timeline = share N i (initLog instrument program seq ++ refLog τ 0 body) ++ [(refEnd τ 0 body, .close)] := by
  obtain ⟨c, ⟨hlen, hs⟩, hc⟩ := runCalls_sync τ body _ 0 0 _ (new_sync N instrument program seq) rfl hwf
  rw [runCalls_append]
  refine ⟨by simpa [runCalls, MW.close, distribute] using hlen, fun i t' ht' => ?_⟩
  simp only [runCalls, MW.close, distribute, List.getElem?_map, Option.map_eq_some_iff] at ht'
  obtain ⟨t, ht, rfl⟩ := ht'
  obtain ⟨hcl, htl⟩ := hs i t ht
  exact ⟨rfl, by rw [clock_add, hcl, hc], by rw [timeline_add, htl, hcl, hc]⟩

def buckets {α} (N : Nat) (f : α → Nat) (l : List α) : List α :=
  (List.range N).flatMap fun i => l.filter (fun x => f x = i)

theorem buckets_perm_filter {α} (f : α → Nat) (l : List α) : ∀ N, (buckets N f l).Perm (l.filter (fun x => f x < N)) := by
  intro N
  induction N with
  | zero => simp [buckets]
  | succ N ih =>
    unfold buckets at ih ⊢
    rw [List.range_succ, List.flatMap_append]
    simp only [List.flatMap_cons, List.flatMap_nil, List.append_nil]
    have h1 := List.filter_append_perm (fun x => decide (f x < N)) (l.filter (fun x => decide (f x < N + 1)))
    have e1 : (l.filter (fun x => decide (f x < N + 1))).filter (fun x => decide (f x < N)) = l.filter (fun x => decide (f x < N)) := by
      rw [List.filter_filter]; congr 1; funext x
      by_cases h : f x < N <;> simp [h]; omega
    have e2 : (l.filter (fun x => decide (f x < N + 1))).filter (fun x => !decide (f x < N)) = l.filter (fun x => decide (f x = N)) := by
      rw [List.filter_filter]; congr 1; funext x
      by_cases h : f x = N
      · simp [h]
      · by_cases h2 : f x < N <;> simp [h, h2]; omega
    rw [e1, e2] at h1
    exact (List.Perm.append ih (List.Perm.refl _)).trans h1

theorem buckets_perm {α} {N : Nat} (f : α → Nat) {l : List α} (h : ∀ x ∈ l, f x < N) : (buckets N f l).Perm l := by
  have := buckets_perm_filter f l N
  have e : l.filter (fun x => decide (f x < N)) = l := by
    rw [List.filter_eq_self]; intro x hx; simpa using h x hx
  rwa [e] at this

end Crd
