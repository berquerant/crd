import Crd.Lemmas.Lex

/-!
# White space and comments: ignored before and after tokens (C11), and all that a text has besides its tokens (C04)
-/
namespace Crd
open Generated

theorem lexStep_spaces (es em : Bool) (w inp : List Char) (h : ∀ c ∈ w, isSpace c = true) :
    lexStep true es em (w ++ inp) = lexStep true es em inp := by
  induction w with
  | nil => rfl
  | cons c w ih => simp_all [lexStep_space]

theorem lexFrom_spaces (es em : Bool) (w inp : List Char) (acc : List Tok) (h : ∀ c ∈ w, isSpace c = true) :
    lexFrom es em (w ++ inp) acc = lexFrom es em inp acc := by
  rw [lexFrom_step, lexFrom_step, lexStep_spaces es em w inp h]

/-- a comment `;…` up to (not including) its newline is discarded when no special mode is active -/
theorem lexStep_comment (body rest : List Char) (hb : ∀ x ∈ body, x ≠ commentStop) :
    lexStep true false false (commentStart :: (body ++ commentStop :: rest)) = .skip (commentStop :: rest) := by
  obtain ⟨h1, _, h3⟩ := comment_facts
  have : spanW (· ≠ commentStop) (commentStart :: (body ++ commentStop :: rest)) = (commentStart :: body, commentStop :: rest) :=
    spanW_iff.mpr ⟨by simp, by simpa [h3] using hb, by simp⟩
  rw [lexStep, spanW_cons_neg h1]
  simp only [this, Bool.false_and, Bool.false_eq_true, ↓reduceIte, List.isEmpty_cons]

/-- trivia outside `{…}` and not directly after `_`: white space and `;` comments, each comment closed by its
newline -/
inductive Trivia : List Char → Prop
  | nil : Trivia []
  | space (c : Char) (w : List Char) (hc : isSpace c = true) (h : Trivia w) : Trivia (c :: w)
  | comment (body w : List Char) (hb : ∀ x ∈ body, x ≠ commentStop) (h : Trivia w) :
      Trivia (commentStart :: (body ++ commentStop :: w))

/-- trivia admitted in a lexer state: anything of `Trivia` in the plain state; only white space after `_` and
inside `{…}` (there `;` belongs to the key or value, as documented) -/
def TriviaIn (es em : Bool) (w : List Char) : Prop := if es || em then (∀ c ∈ w, isSpace c = true) else Trivia w

/-- **trivia before a token is ignored**, in every lexer state -/
theorem lexFrom_trivia (es em : Bool) (w : List Char) (h : TriviaIn es em w) (inp : List Char) (acc : List Tok) :
    lexFrom es em (w ++ inp) acc = lexFrom es em inp acc := by
  unfold TriviaIn at h
  split at h
  · exact lexFrom_spaces es em w inp acc h
  · next hm =>
    obtain ⟨rfl, rfl⟩ : es = false ∧ em = false := by simpa using hm
    induction h with
    | nil => rfl
    | space c w hc _ ih => exact (lexFrom_spaces _ _ [c] _ acc (by simpa using hc)).trans ih
    | comment body w hb _ ih =>
      rw [List.cons_append, List.append_assoc, List.cons_append, lexFrom_step, lexStep_comment body _ hb]
      exact (lexFrom_spaces _ _ [commentStop] _ acc (by simpa using comment_facts.2.1)).trans ih

theorem trivia_at_start (w s : List Char) (h : Trivia w) : lexChars (w ++ s) = lexChars s := by
  rw [lexChars_eq, lexChars_eq]
  exact lexFrom_trivia false false w (by simpa [TriviaIn] using h) s []

theorem space_not_digit (c : Char) (h : isSpace c = true) : isDigitC c = false := by
  simp only [isSpace, Bool.or_eq_true, Bool.and_eq_true, decide_eq_true_eq] at h
  simp only [isDigitC, Bool.and_eq_false_iff, decide_eq_false_iff_not]
  omega

theorem space_not_symbol (c : Char) (h : isSpace c = true) : isSymbolRune c = false := by
  simp [isSymbolRune, symbol_excludes_space, h]

/-- trivia begins with white space or the comment start: with no digit and no symbol rune -/
theorem TriviaIn.head {es em : Bool} {c : Char} {w : List Char} (h : TriviaIn es em (c :: w)) :
    isDigitC c = false ∧ isSymbolRune c = false := by
  have : isSpace c = true ∨ c = commentStart := by
    unfold TriviaIn at h
    split at h
    · exact .inl (h c (by simp))
    · cases h with
      | space _ _ hc _ => exact .inl hc
      | comment => exact .inr rfl
  rcases this with hs | rfl
  · exact ⟨space_not_digit c hs, space_not_symbol c hs⟩
  · decide

/-- **trivia after a token is ignored**: after any token that is not a METADATA run, inserting trivia admitted in
the state that token leaves behind changes neither the token nor anything that follows -/
theorem trivia_after_token (es em : Bool) (x : List Char) (t : Tok) (es' em' : Bool) (r : List Char)
    (h : lexStep true es em x = .emit t es' em' r) (hk : t.k ≠ .METADATA) (w : List Char) (hw : TriviaIn es' em' w)
    (acc : List Tok) :
    ∃ consumed, x = consumed ++ r ∧ lexFrom es em (consumed ++ (w ++ r)) acc = lexFrom es em x acc := by
  obtain ⟨consumed, p, rfl, hp, hcut⟩ := lexStep_cut es em t es' em' r x h
  refine ⟨consumed, rfl, ?_⟩
  cases w with
  | nil => rfl
  | cons c w =>
    have hpc : p c = false := Bool.eq_false_iff.mpr fun hpc => by
      rcases hp hk c hpc with h | h <;> simp [hw.head] at h
    rw [lexFrom_step, hcut _ (by simpa using hpc), lexFrom_step es em (consumed ++ r), h]
    exact lexFrom_trivia es' em' (c :: w) hw r (acc ++ [t])

/-- what may stand between two tokens (and before the first, after the last): white space and `;` comments; the last
comment of a text may end with the text instead of a newline -/
inductive Gap : List Char → Prop
  | nil : Gap []
  | space (c : Char) (w : List Char) (hc : isSpace c = true) (h : Gap w) : Gap (c :: w)
  | comment (body w : List Char) (hb : ∀ x ∈ body, x ≠ commentStop) (h : Gap w) :
      Gap (commentStart :: (body ++ commentStop :: w))
  | lastComment (body : List Char) (hb : ∀ x ∈ body, x ≠ commentStop) : Gap (commentStart :: body)

theorem Gap.spaces (w : List Char) (h : ∀ c ∈ w, isSpace c = true) (g : List Char) (hg : Gap g) : Gap (w ++ g) := by
  induction w with
  | nil => exact hg
  | cons c w ih => exact Gap.space c _ (h c (by simp)) (ih (fun x hx => h x (by simp [hx])))

theorem Gap.tail (c : Char) (w : List Char) (hc : isSpace c = true) (h : Gap (c :: w)) : Gap w := by
  cases h with
  | space _ _ _ h' => exact h'
  | _ => simp [comment_facts.1] at hc

theorem Gap.afterComment (body g : List Char) (hb : ∀ x ∈ body, x ≠ commentStop) (hg : Gap g)
    (hh : ∀ c ∈ g.head?, c = commentStop) : Gap (commentStart :: (body ++ g)) := by
  cases g with
  | nil => simpa using Gap.lastComment body hb
  | cons c g =>
    obtain rfl := hh c rfl
    exact Gap.comment body g hb (Gap.tail _ _ comment_facts.2.1 hg)

/-- the text is the tokens' own characters, in order, with gaps between them -/
inductive Weave : List (List Char) → List Tok → List Char → Prop
  | done (g : List Char) (hg : Gap g) : Weave [g] [] g
  | tok (g : List Char) (t : Tok) (gs : List (List Char)) (ts : List Tok) (rest : List Char)
      (hg : Gap g) (ht : TokOK t) (h : Weave gs ts rest) : Weave (g :: gs) (t :: ts) (g ++ t.v ++ rest)

theorem Weave.extend (pre : List Char) (hpre : ∀ g, Gap g → Gap (pre ++ g)) :
    ∀ gs ts inp, Weave gs ts inp → ∃ gs', Weave gs' ts (pre ++ inp)
  | _, _, _, .done g hg => ⟨[pre ++ g], Weave.done _ (hpre g hg)⟩
  | _, _, _, .tok g t gs ts rest hg ht h =>
    ⟨(pre ++ g) :: gs, by
      have := Weave.tok (pre ++ g) t gs ts rest (hpre g hg) ht h
      simpa [List.append_assoc] using this⟩

/-- a comment in front of a woven text that is empty or begins with the newline that ends the comment: the comment
joins the first gap, which is empty or begins as the text does -/
theorem Weave.comment (body : List Char) (hb : ∀ x ∈ body, x ≠ commentStop) :
    ∀ gs ts inp, Weave gs ts inp → (∀ c ∈ inp.head?, c = commentStop) →
      ∃ gs', Weave gs' ts (commentStart :: (body ++ inp))
  | _, _, _, .done g hg, hh => ⟨[_], Weave.done _ (Gap.afterComment body g hb hg hh)⟩
  | _, _, _, .tok g t gs ts rest hg ht h, hh =>
    ⟨(commentStart :: (body ++ g)) :: gs, by
      have hg' := Gap.afterComment body g hb hg fun c hc => hh c (by cases g <;> simp_all)
      simpa [List.append_assoc] using Weave.tok _ t gs ts rest hg' ht h⟩

/-- **every character of the text is accounted for**: if the lexer ends silently with the tokens `ts`, the text is
those tokens' own characters, in order, with only white space and comments before, between and after them -/
theorem lexFrom_weave (es em : Bool) (inp : List Char) : ∀ (acc out : List Tok),
    lexFrom es em inp acc = .ok out → ∃ ts gs, out = acc ++ ts ∧ Weave gs ts inp := by
  induction es, em, inp using lexStep_induct with
  | step es em inp ihs ihe =>
    intro acc out h
    have hshape := lexStep_shape es em inp
    rw [lexFrom_step] at h
    cases hs : lexStep true es em inp with
    | fail => rw [hs] at h; cases h
    | hang => rw [hs] at h; cases h
    | eof =>
      rw [hs] at h hshape; cases h
      exact ⟨[], [inp], by simp, Weave.done inp (by simpa using Gap.spaces inp hshape [] Gap.nil)⟩
    | skip rest =>
      rw [hs] at h hshape
      obtain ⟨ts, gs, hout, hw⟩ := ihs rest hs acc out h
      obtain ⟨w, body, hw1, hb, rfl, hrest⟩ := hshape
      obtain ⟨gs1, hw1'⟩ := Weave.comment body hb gs ts rest hw hrest
      obtain ⟨gs2, hw2⟩ := Weave.extend w (Gap.spaces w hw1) _ _ _ hw1'
      exact ⟨ts, gs2, hout, hw2⟩
    | emit t es' em' rest =>
      rw [hs] at h hshape
      obtain ⟨ts, gs, hout, hw⟩ := ihe t es' em' rest hs (acc ++ [t]) out h
      obtain ⟨w, hw1, rfl, htok⟩ := hshape
      have hg : Gap w := by simpa using Gap.spaces w hw1 [] Gap.nil
      exact ⟨t :: ts, w :: gs, by simp [hout], Weave.tok w t gs ts rest hg htok hw⟩

theorem lex_faithful (s : List Char) (ts : List Tok) (h : lexChars s = .ok ts) : ∃ gs, Weave gs ts s := by
  rw [lexChars_eq] at h
  obtain ⟨ts', gs, rfl, hw⟩ := lexFrom_weave false false s [] ts h
  exact ⟨gs, hw⟩

end Crd
