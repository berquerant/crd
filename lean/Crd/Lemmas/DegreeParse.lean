import Crd.Lemmas.Degree

/-!
# `ParseDegree` inverts `Degree.String` (with Go's `strings.Contains` / `strings.Trim` semantics and the
ordered symbol loop), for every valid interval whose number fits a Go `uint`.
-/
namespace Crd
open Generated

theorem contains_none (x : Char) (rest : List Char) :
    ∀ l : List Char, (∀ c ∈ l, c ≠ x) → containsL l (x :: rest) = false := by
  intro l; induction l with
  | nil => intro _; simp [containsL]
  | cons c cs ih =>
    intro h
    have hc : c ≠ x := h c (by simp)
    have := ih (fun c hc' => h c (by simp [hc']))
    simp [containsL, List.isPrefixOf, this, Ne.symm hc]

theorem digit_ne {c x : Char} (h : isDigit c = true) (hx : isDigit x = false) : c ≠ x :=
  fun e => by rw [e, hx] at h; cases h

theorem trimRight_keep (cut : List Char) (ds : List Char) (h : ∀ c ∈ ds, cut.contains c = false) :
    trimRightSet cut ds = ds := by
  unfold trimRightSet
  cases hr : ds.reverse with
  | nil => simp at hr; simp [hr]
  | cons d t =>
    have hmem : d ∈ ds := by
      have : d ∈ ds.reverse := by rw [hr]; simp
      simpa using this
    rw [List.dropWhile_cons_of_neg (by rw [h d hmem]; nofun), ← hr]; simp

theorem digits_all (n : Nat) : ∀ c ∈ Nat.toDigits 10 n, isDigit c = true :=
  fun _ hc => Nat.isDigit_of_mem_toDigits (by decide) (by decide) hc

theorem parseUint_toDigits (n : Nat) (h : n < 2 ^ 64) : parseUint (Nat.toDigits 10 n) = some n := by
  unfold parseUint
  have hne : (Nat.toDigits 10 n).isEmpty = false := by
    cases h' : Nat.toDigits 10 n with
    | nil => exact absurd h' Nat.toDigits_ne_nil
    | cons _ _ => rfl
  have hall : (Nat.toDigits 10 n).all isDigit = true := List.all_eq_true.mpr (digits_all n)
  have hv : digitsVal (Nat.toDigits 10 n) = n := by
    have := @Nat.ofDigitChars_ten_toDigits n
    simpa [digitsVal, Nat.ofDigitChars] using this
  simp [hne, hall, hv, uintMax, h]

theorem containsL_nil : ∀ l : List Char, containsL l [] = true
  | [] => rfl
  | _ :: _ => by simp [containsL]

section
variable {ds : List Char} (hds : ∀ c ∈ ds, isDigit c = true)
include hds

theorem isPrefixOf_append_digits : ∀ (sym l : List Char), (∀ c ∈ sym, isDigit c = false) →
    sym.isPrefixOf (l ++ ds) = sym.isPrefixOf l
  | [], _, _ => rfl
  | x :: xs, [], hs => by
    cases ds with
    | nil => rfl
    | cons d t => simp [List.isPrefixOf, (digit_ne (hds d (by simp)) (hs x (by simp))).symm]
  | x :: xs, a :: l, hs => by
    simp only [List.cons_append, List.isPrefixOf]
    rw [isPrefixOf_append_digits xs l fun c hc => hs c (by simp [hc])]

/-- a symbol without digits occurs in `l ++ digits` only where it occurs in `l` -/
theorem containsL_append_digits {sym : List Char} (hs : ∀ c ∈ sym, isDigit c = false) :
    ∀ l, containsL (l ++ ds) sym = containsL l sym
  | [] => by
    cases sym with
    | nil => simp [containsL, containsL_nil]
    | cons x xs => simpa [containsL] using contains_none x xs ds fun c hc => digit_ne (hds c hc) (hs x (by simp))
  | a :: l => by
    simp only [List.cons_append, containsL]
    rw [← List.cons_append, isPrefixOf_append_digits hds sym (a :: l) hs, containsL_append_digits hs l]

/-- `Trim` with a cut set without digits strips a prefix made of cut characters and nothing else -/
theorem trimSet_append_digits {cut pre : List Char} (hcut : ∀ c ∈ cut, isDigit c = false)
    (hpre : ∀ c ∈ pre, cut.contains c = true) : trimSet cut (pre ++ ds) = ds := by
  have hkeep : ∀ c ∈ ds, cut.contains c = false := fun c hc => by
    simp only [List.contains_eq_mem, decide_eq_false_iff_not]
    exact fun hm => absurd ((hds c hc).symm.trans (hcut c hm)) (by simp)
  have hleft : ds.dropWhile (cut.contains ·) = ds := by
    cases ds with
    | nil => rfl
    | cons d t => rw [List.dropWhile_cons_of_neg (by rw [hkeep d (by simp)]; nofun)]
  unfold trimSet trimLeftSet
  rw [List.dropWhile_append_of_pos hpre, hleft, trimRight_keep cut ds hkeep]
end

/-- the loop passes over a symbol that does not occur in the string -/
theorem parseSyms_skip {sym : String} {q : Coerce} {rest : List (String × Coerce)} {s : List Char}
    (hne : sym.isEmpty = false) (h : containsL s sym.toList = false) : parseSyms ((sym, q) :: rest) s = parseSyms rest s := by
  simp [parseSyms, hne, h]

/-- and stops at the first one that occurs and that `Trim` removes -/
theorem parseSyms_hit {sym : String} {q : Coerce} {rest : List (String × Coerce)} {s v : List Char} {n : Nat}
    (hne : sym.isEmpty = false) (h : containsL s sym.toList = true) (hv : trimSet sym.toList s = v) (hvs : v ≠ s)
    (hn : parseUint v = some n) : parseSyms ((sym, q) :: rest) s = .ok q n := by
  simp [parseSyms, hne, h, hv, hvs, hn]

theorem containsL_self {l : List Char} : containsL l l = true := by
  cases l <;> simp [containsL]

/-- the ordered loop finds the entry whose symbol stands in front of the digits, whatever the table, provided no
symbol has a digit and none occurs in one listed after it (so the empty symbol comes last) -/
theorem parseSyms_entry {ds : List Char} (hd : ∀ x ∈ ds, isDigit x = true) {n : Nat} (hn : parseUint ds = some n) :
    ∀ syms : List (String × Coerce), syms.Pairwise (fun p p' => containsL p'.1.toList p.1.toList = false) →
      (∀ p ∈ syms, ∀ x ∈ p.1.toList, isDigit x = false) →
      ∀ sym q, (sym, q) ∈ syms → parseSyms syms (sym.toList ++ ds) = .ok q n
  | (s0, q0) :: rest, hpw, hnd, sym, q, hm => by
    obtain ⟨hlater, hpw⟩ := List.pairwise_cons.mp hpw
    have hnd0 := hnd _ (List.mem_cons_self ..)
    rcases List.mem_cons.mp hm with e | hm
    · -- the entry itself: `Trim` by its symbol leaves the digits
      cases e
      by_cases he : s0 = ""
      · simp [parseSyms, he, hn]
      · have he : s0.toList ≠ [] := by simpa using he
        exact parseSyms_hit (by simpa using he) ((containsL_append_digits hd hnd0 _).trans containsL_self)
          (trimSet_append_digits hd hnd0 fun x hx => by simpa using hx)
          (fun e => he (List.append_left_eq_self.mp e.symm)) hn
    · -- an entry before it: its symbol does not occur in `sym`, so not in `sym ++ ds`, whose other characters are digits
      have h0 := hlater _ hm
      have he : s0.toList ≠ [] := fun e => by simp [e, containsL_nil] at h0
      rw [parseSyms_skip (by simpa using he) ((containsL_append_digits hd hnd0 _).trans h0)]
      exact parseSyms_entry hd hn rest hpw (fun p hp => hnd p (List.mem_cons_of_mem _ hp)) sym q hm

theorem symbols_ordered : parseDegreeSymbols.Pairwise (fun p p' => containsL p'.1.toList p.1.toList = false) ∧
    ∀ p ∈ parseDegreeSymbols, ∀ x ∈ p.1.toList, isDigit x = false := by decide

theorem str_listed {c : Coerce} {pre : String} (h : c.str? = some pre) : (pre, c) ∈ parseDegreeSymbols := by
  cases c <;> cases h <;> decide

/-- the loop of `ParseDegree` finds exactly the prefix that `Degree.String` wrote -/
theorem parse_print (c : Coerce) (pre : String) (hpre : c.str? = some pre)
    (ds : List Char) (hne : ds ≠ []) (hd : ∀ x ∈ ds, isDigit x = true) (n : Nat) (hn : parseUint ds = some n) :
    parseSyms parseDegreeSymbols (pre.toList ++ ds) = .ok c n :=
  parseSyms_entry hd hn _ symbols_ordered.1 symbols_ordered.2 pre c (str_listed hpre)

/-- **C10/C15**: the printed notation of every valid interval reads back as the same interval -/
theorem degree_roundtrip (d : Degree) (hv : d.valid) (hb : d.value < 2 ^ 64) :
    parseDegree d.str.toList = some d := by
  have hc := coerce_degree_of_valid d hv
  obtain ⟨c1, c2, c3, c4, c5, c6, c7, c8, s1, s2, s3, s4, s5, s6, s7⟩ := coerce_facts
  have hne : d.name.coerce ≠ .unknown := by
    intro h; rw [h] at hc; simp [Coerce.degree] at hc
  obtain ⟨pre, hpre⟩ : ∃ pre, d.name.coerce.str? = some pre := by
    cases hq : d.name.coerce <;> simp_all
  unfold parseDegree Degree.str
  rw [hpre]
  simp only [Option.getD_some, String.toList_append, Nat.toString_eq_repr, Nat.toList_repr]
  rw [parse_print d.name.coerce pre hpre _ Nat.toDigits_ne_nil (digits_all d.value) d.value
    (parseUint_toDigits d.value hb)]
  exact hc

theorem newDegree_eq_some {v : Nat} {q : Quality} {d : Degree} : newDegree v q = some d ↔ d = ⟨v, q⟩ ∧ d.valid = true := by
  unfold newDegree Degree.valid
  split <;> rename_i h
  · simp only [Option.some.injEq]; exact ⟨fun e => e ▸ ⟨rfl, h⟩, fun e => e.1.symm⟩
  · simp only [reduceCtorEq, false_iff]; rintro ⟨rfl, h'⟩; exact h h'

theorem coerce_degree_some {c : Coerce} {v : Nat} {d : Degree} (h : c.degree v = some d) : d.value = v ∧ d.valid = true := by
  have key : ∀ q, newDegree v q = some d → d.value = v ∧ d.valid = true := fun q hq => by
    obtain ⟨rfl, hv⟩ := newDegree_eq_some.mp hq; exact ⟨rfl, hv⟩
  have two : ∀ q q', ((newDegree v q).orElse fun _ => newDegree v q') = some d → d.value = v ∧ d.valid = true := fun q q' h => by
    cases h1 : newDegree v q with
    | some x => rw [h1] at h; exact key q (h1.trans h)
    | none => rw [h1] at h; exact key q' h
  cases c
  case unknown => cases h
  case majPerf => exact two _ _ h
  case minDim => exact two _ _ h
  all_goals exact key _ h

theorem parse_valid (s : List Char) (d : Degree) (h : parseDegree s = some d) : d.valid := by
  unfold parseDegree at h
  split at h
  · exact (coerce_degree_some h).2
  · cases h

end Crd
