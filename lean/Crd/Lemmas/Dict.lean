import Crd.Model.Dict
import Crd.Lemmas.Lookup

/-!
# Lemmas about the chord dictionary: what `validate` guarantees, fuel sufficiency of `extends` resolution,
cycles are rejected, and which entry a name finds.
-/
namespace Crd

theorem lookupLast_mem {β} (k : String) (l : List (String × β)) (v : β) (h : lookupLast k l = some v) : (k, v) ∈ l := by
  have := lookup_mem k l.reverse v h
  simpa using this

theorem chord_mem_entries (d : Dict) (n : String) (c : ChordDef) (h : d.chord n = some c) : c ∈ d.entries := by
  unfold Dict.entries
  rw [List.mem_filterMap]
  refine ⟨n, ?_, h⟩
  have := lookupLast_mem n d.chords c h
  rw [List.mem_eraseDups]
  exact List.mem_map.mpr ⟨(n, c), this, rfl⟩

def Dict.bound (d : Dict) : Nat := (d.chords.map (·.1)).eraseDups.length + 1

/-- what a validated dictionary guarantees, for every entry a lookup can return -/
structure Dict.WF (d : Dict) : Prop where
  attrs : ∀ n c, d.chord n = some c → ∀ a ∈ c.attributes, (d.attr a).isSome = true
  parent : ∀ n c, d.chord n = some c → c.parent = "" ∨ (d.chord c.parent).isSome = true
  ends : ∀ n c, d.chord n = some c → d.chainEnds d.bound c = true

theorem validate_iff (d : Dict) : d.validate = true ↔ ∀ c ∈ d.entries,
    (∀ a ∈ c.attributes, (d.attr a).isSome = true) ∧ (c.parent = "" ∨ (d.chord c.parent).isSome = true) ∧
      d.chainEnds d.bound c = true := by
  simp only [Dict.validate, Dict.bound, List.all_eq_true, Bool.and_eq_true, Bool.or_eq_true, decide_eq_true_eq, and_assoc]

theorem validate_wf {d : Dict} (h : d.validate = true) : d.WF := by
  have h' := fun n c hc => (validate_iff d).mp h c (chord_mem_entries d n c hc)
  exact ⟨fun n c hc => (h' n c hc).1, fun n c hc => (h' n c hc).2.1, fun n c hc => (h' n c hc).2.2⟩

/-- and conversely: `validate` is exactly these three conditions over the visible entries -/
theorem wf_validate (d : Dict)
    (h1 : ∀ c ∈ d.entries, ∀ a ∈ c.attributes, (d.attr a).isSome = true)
    (h2 : ∀ c ∈ d.entries, c.parent = "" ∨ (d.chord c.parent).isSome = true)
    (h3 : ∀ c ∈ d.entries, d.chainEnds d.bound c = true) : d.validate = true :=
  (validate_iff d).mpr fun c hc => ⟨h1 c hc, h2 c hc, h3 c hc⟩

def Dict.own (d : Dict) (c : ChordDef) : List Attr := c.attributes.map fun a => (d.attr a).getD ⟨"", ⟨0, .unknown⟩⟩

/-- the intended meaning of `extends`: parent's notes first (transitively), then own; defined with the chain
length as fuel -/
def Dict.resolve (d : Dict) : Nat → ChordDef → List Attr
  | 0, c => d.own c
  | f+1, c =>
    if c.parent = "" then d.own c
    else match d.chord c.parent with
      | none => d.own c
      | some p => d.resolve f p ++ d.own c

theorem Dict.WF.parent_some {d : Dict} (wf : d.WF) {n : String} {c : ChordDef} (hc : d.chord n = some c)
    (hp : c.parent ≠ "") : ∃ p, d.chord c.parent = some p :=
  Option.isSome_iff_exists.mp ((wf.parent n c hc).resolve_left hp)

theorem chainEnds_parent {d : Dict} {f : Nat} {c p : ChordDef} (he : d.chainEnds (f + 1) c = true)
    (hp : c.parent ≠ "") (hpc : d.chord c.parent = some p) : d.chainEnds f p = true := by
  simpa [Dict.chainEnds, hp, hpc] using he

/-- with enough fuel the recursion of `GetChordAttributes` computes `resolve`, for any larger fuel too -/
theorem chordAttrsF_eq {d : Dict} (wf : d.WF) :
    ∀ (f : Nat) (n : String) (c : ChordDef), d.chord n = some c → d.chainEnds f c = true →
      ∀ g, f + 1 ≤ g → d.chordAttrsF g n = some (d.resolve f c) := by
  intro f
  induction f with
  | zero =>
    intro n c hc he g hg
    obtain ⟨g', rfl⟩ : ∃ g', g = g' + 1 := ⟨g - 1, by omega⟩
    have hpar : c.parent = "" := by simpa [Dict.chainEnds] using he
    simp [Dict.chordAttrsF, hc, hpar, Dict.resolve, Dict.own]
  | succ f ih =>
    intro n c hc he g hg
    obtain ⟨g', rfl⟩ : ∃ g', g = g' + 1 := ⟨g - 1, by omega⟩
    by_cases hpar : c.parent = ""
    · simp [Dict.chordAttrsF, hc, hpar, Dict.resolve, Dict.own]
    · obtain ⟨p, hpc⟩ := wf.parent_some hc hpar
      have := ih c.parent p hpc (chainEnds_parent he hpar hpc) g' (by omega)
      simp [Dict.chordAttrsF, hc, hpar, Dict.resolve, hpc, this, Dict.own]

theorem chordAttrsF_succ (d : Dict) (f : Nat) (n : String) (c : ChordDef) (hc : d.chord n = some c) :
    d.chordAttrsF (f + 1) n =
      some ((if c.parent = "" then [] else (d.chordAttrsF f c.parent).getD []) ++ d.own c) := by
  simp [Dict.chordAttrsF, hc, Dict.own]

/-- **in a validated dictionary every chord resolves to its parent's notes, transitively, followed by its own**; the
look-up never runs out of fuel (= never overflows the stack) -/
theorem Dict.WF.chordAttrs_eq {d : Dict} (wf : d.WF) {n : String} {c : ChordDef} (hc : d.chord n = some c) :
    d.chordAttrs n = some (d.resolve d.bound c) :=
  chordAttrsF_eq wf d.bound n c hc (wf.ends n c hc) d.fuel (Nat.le_refl _)

/-- one level of it: the notes of the parent, then the chord's own -/
theorem Dict.WF.chordAttrs_parent {d : Dict} (wf : d.WF) {n : String} {c : ChordDef} (hc : d.chord n = some c)
    (hp : c.parent ≠ "") : ∃ p, d.chord c.parent = some p ∧
      d.chordAttrs n = some ((d.chordAttrs c.parent).getD [] ++ d.own c) ∧ (d.chordAttrs c.parent).isSome = true := by
  obtain ⟨p, hpc⟩ := wf.parent_some hc hp
  -- the parent passes the chain test with one unit less, so any fuel from `d.bound` on resolves it alike
  have hpar := chordAttrsF_eq wf _ c.parent p hpc (chainEnds_parent (wf.ends n c hc) hp hpc)
  have hfuel : d.chordAttrs c.parent = d.chordAttrsF d.bound c.parent :=
    (hpar d.fuel (Nat.le_succ _)).trans (hpar d.bound (Nat.le_refl _)).symm
  refine ⟨p, hpc, ?_, by rw [hfuel, hpar d.bound (Nat.le_refl _)]; rfl⟩
  have := chordAttrsF_succ d d.bound n c hc
  rwa [if_neg hp, ← hfuel] at this

/-- `extends` chains: `p` is reached from `c` by following parents at least once -/
inductive Dict.Reach (d : Dict) : ChordDef → ChordDef → Prop
  | step (c p : ChordDef) (h1 : c.parent ≠ "") (h2 : d.chord c.parent = some p) : Dict.Reach d c p
  | trans (c p q : ChordDef) (h1 : c.parent ≠ "") (h2 : d.chord c.parent = some p) (h3 : Dict.Reach d p q) : Dict.Reach d c q

theorem reach_first {d : Dict} {c q : ChordDef} (h : d.Reach c q) :
    ∃ p, c.parent ≠ "" ∧ d.chord c.parent = some p ∧ (p = q ∨ d.Reach p q) := by
  cases h with
  | step _ _ h1 h2 => exact ⟨q, h1, h2, Or.inl rfl⟩
  | trans _ p _ h1 h2 h3 => exact ⟨p, h1, h2, Or.inr h3⟩

theorem reach_append {d : Dict} {a b c : ChordDef} (h1 : d.Reach a b) (h2 : d.Reach b c) : d.Reach a c := by
  induction h1 with
  | step x p hx hp => exact .trans x p c hx hp h2
  | trans x p q hx hp _ ih => exact .trans x p c hx hp (ih h2)

/-- a chord on an `extends` cycle never passes the chain test, whatever the bound -/
theorem cycle_never_ends (d : Dict) : ∀ (f : Nat) (c : ChordDef), d.Reach c c → d.chainEnds f c = false := by
  intro f
  induction f with
  | zero =>
    intro c h
    obtain ⟨p, h1, _, _⟩ := reach_first h
    simp [Dict.chainEnds, h1]
  | succ f ih =>
    intro c h
    obtain ⟨p, h1, h2, h3⟩ := reach_first h
    have hp : d.Reach p p := by
      rcases h3 with rfl | h3
      · exact h
      · exact reach_append h3 (.step c p h1 h2)
    simp [Dict.chainEnds, h1, h2, ih p hp]

/-- `newDict` is `buildRaw` behind two guards: every user entry well-formed, the whole dictionary validated -/
theorem newDict_eq_some {ua : List Attr} {uc : List ChordDef} {d : Dict} : newDict ua uc = some d ↔
    (ua.all Attr.valid && uc.all ChordDef.valid) = true ∧
    (buildRaw (builtinAttrs ++ ua) (builtinChords ++ uc)).validate = true ∧
    d = buildRaw (builtinAttrs ++ ua) (builtinChords ++ uc) := by
  unfold newDict build
  by_cases h1 : (ua.all Attr.valid && uc.all ChordDef.valid) = true <;>
    by_cases h2 : (buildRaw (builtinAttrs ++ ua) (builtinChords ++ uc)).validate = true <;>
    simp [h1, h2, eq_comm]

theorem newDict_wf {ua : List Attr} {uc : List ChordDef} {d : Dict} (h : newDict ua uc = some d) : d.WF := by
  obtain ⟨_, hv, rfl⟩ := newDict_eq_some.mp h
  exact validate_wf hv

/-- `GetChordAttributes` sees a name only through the entry it finds: names that find the same entry are
interchangeable -/
theorem chordAttrs_congr {d : Dict} {n m : String} (h : d.chord n = d.chord m) : d.chordAttrs n = d.chordAttrs m := by
  simp only [Dict.chordAttrs, Dict.fuel, Dict.chordAttrsF, h]

/-- the chord found under a name: the LAST chord of the list whose long name or display symbol is that name;
among the two, the display symbol is registered after the long name, which matters only for one chord using the
same string twice -/
theorem chord_lookup_last (chords : List ChordDef) (attrs : List Attr) (n : String) :
    (buildRaw attrs chords).chord n = chords.reverse.find? (fun c => c.display = n || c.name = n) := by
  unfold Dict.chord lookupLast buildRaw
  simp only
  induction chords with
  | nil => simp [lookup]
  | cons c cs ih =>
    simp only [List.flatMap_cons, List.reverse_cons, List.nil_append, List.cons_append]
    rw [lookup_append, lookup_append, ih, List.find?_append]
    cases hf : List.find? (fun c => c.display = n || c.name = n) cs.reverse with
    | some x => simp [Option.orElse]
    | none =>
      simp only [Option.orElse, lookup, List.find?_cons, List.find?_nil]
      by_cases h1 : c.display = n <;> by_cases h2 : c.name = n <;> simp [h1, h2]

end Crd
