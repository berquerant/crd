import Crd.Spec.Progression
import Crd.Lemmas.ConvValid

/-!
# One progression, one meaning: note names in any key vs degree numbers (C05)
-/
namespace Crd
open Spec Crd.Props.C03 Crd.Props.C13

def aNotes : List ANote := [1, 2, 3, 4, 5, 6, 7].flatMap fun n => [(-1 : Int), 0, 1].map fun a => ⟨n, a⟩

def ANote.ok (a : ANote) : Prop := a ∈ aNotes

/-- every interval the degree notation can write exists -/
theorem degOf_size : ∀ a ∈ aNotes, ((degOf a).bind fun d => specSize d.value d.name).isSome = true := by decide

theorem accOfInt_none {x : Int} (h : accOfInt x = none) : 2 ≤ x ∨ x ≤ -2 := by
  unfold accOfInt at h
  split at h
  · cases h
  split at h
  · cases h
  split at h
  · cases h
  omega

/-- the degree spelling reads as the interval it denotes -/
theorem degNode_conv : ∀ a ∈ aNotes, convDegreeText (degNode a) = (match degOf a with | some d => .ok d | none => .error .invalid) := by
  decide +kernel

/-- **core**: from ANY of the 21 written reference notes, the written note that lies an interval above it converts
back to exactly that interval (both search orders) -/
theorem spell_getDegree : ∀ ref ∈ notes21, ∀ a ∈ aNotes, ∀ o : Bool,
    (match spell ref a with
     | some x => decide (x ∈ notes21) && (ref.getDegree x o == (match degOf a with | some d => GetDeg.ok d | none => .invalid))
     | none => true) = true := by decide +kernel

theorem noteNode_scaleNote : ∀ x ∈ notes21, newScaleNote (noteNode x) = .ok x := by decide +kernel

/-- in every scale every one of the 21 written notes has a tendency (its letter is in the scale) -/
theorem tendency_ok : ∀ (k : Key) (s : Scale), newScale k = some s →
    (notes21.all fun x => match getTendency s x with | .ok _ => true | .error _ => false) = true :=
  lift (by decide +kernel)

theorem getTendency_some (s : Scale) (hs : IsScale s) (x : SNote) (hx : x ∈ notes21) : ∃ t, getTendency s x = .ok t := by
  obtain ⟨k, hk⟩ := hs
  have := tendency_ok k s hk
  rw [List.all_eq_true] at this
  have h := this x hx
  cases hg : getTendency s x with
  | ok t => exact ⟨t, rfl⟩
  | error e => simp [hg] at h

/-- a spelled note is read back by the syllable converter as the interval it was spelled from: it is one of the 21,
has a tendency in every scale, and measured from its reference gives what the degree spelling gives -/
theorem spell_conv (s : Scale) (hs : IsScale s) (ref : SNote) (href : ref ∈ notes21) (a : ANote) (ha : a ∈ aNotes) (x : SNote)
    (hx : spell ref a = some x) : x ∈ notes21 ∧ newScaleNote (noteNode x) = .ok x ∧ ∃ t, getTendency s x = .ok t ∧
      ∀ o, liftGetDeg (ref.getDegree x o) = convDegreeText (degNode a) := by
  have c := spell_getDegree ref href a ha
  have c1 := c true
  have c2 := c false
  simp only [hx, Bool.and_eq_true, decide_eq_true_eq, beq_iff_eq] at c1 c2
  obtain ⟨t, ht⟩ := getTendency_some s hs x c1.1
  refine ⟨c1.1, noteNode_scaleNote x c1.1, t, ht, fun o => ?_⟩
  rw [degNode_conv a ha, show ref.getDegree x o = _ by cases o; exact c2.2; exact c1.2]
  cases degOf a <;> rfl

/-- converting the note-name spelling of a chord (in the key whose scale is `s`) gives the same degrees as
converting its degree spelling -/
theorem chord_same (s : Scale) (hs : IsScale s) (tonic : SNote) (ht : s.notes.head? = some tonic)
    (r : ANote) (hr : r ∈ aNotes) (b : Option ANote) (hb : ∀ x, b = some x → x ∈ aNotes) (sym : Option Tok)
    (vals : List ValueN) (mta : Option (List MetaKV)) (it : Item)
    (h : sylItem tonic (.chord r sym b vals mta) = some it) (sd : Scale) :
    ∃ rd bd, it = .chord rd sym bd vals mta ∧
      convChord .syllable s rd sym bd = convChord .degree sd (degNode r) sym (b.map degNode) := by
  obtain ⟨t0, ht0, htm⟩ := scale_tonic_mem s hs
  cases ht.symm.trans ht0
  unfold sylItem at h
  cases hsp : spell tonic r with
  | none => simp [hsp] at h
  | some rn =>
    simp only [hsp] at h
    obtain ⟨hrn, hnode, tt, htt, hdeg⟩ := spell_conv s hs tonic htm r hr rn hsp
    cases b with
    | none =>
      cases h
      refine ⟨noteNode rn, none, rfl, ?_⟩
      simp only [convChord, syllableDegrees, hnode, htt, ht, hdeg, ok_do, pure_bind, Option.map_none]
      cases convDegreeText (degNode r) <;> rfl
    | some ba =>
      cases hsb : spell rn ba with
      | none => simp [hsb] at h
      | some bn =>
        simp only [hsb, Option.map_some, Option.some.injEq] at h
        obtain ⟨_, hnodeb, tb, htb, hdegb⟩ := spell_conv s hs rn hrn ba (hb ba rfl) bn hsb
        refine ⟨noteNode rn, some (noteNode bn), h.symm, ?_⟩
        simp only [convChord, syllableDegrees, hnode, hnodeb, htt, htb, ht, hdeg, hdegb, ok_do, pure_bind, Option.map_some]
        cases convDegreeText (degNode r) <;> cases convDegreeText (degNode ba) <;> rfl

def Spec.AItem.WF : AItem → Prop
  | .chord r _ b _ _ => r ∈ aNotes ∧ ∀ x, b = some x → x ∈ aNotes
  | .rest _ _ => True

/-- the specification's `keyAfter` is the converter's `changeScale` after its `modifyMeta` -/
theorem keyAfter_some {s s' : Scale} {a : AItem} (h : keyAfter s a = some s') :
    ∃ i, modifyMeta { mta := convMeta a.mta } (convMeta a.mta) = .ok i ∧ changeScale .syllable s i = .ok s' ∧
      ∀ sd, changeScale .degree sd i = .ok sd := by
  unfold keyAfter at h
  split at h
  · cases h
  rename_i i hm
  refine ⟨i, hm, ?_, fun sd => by unfold changeScale; cases i.key <;> rfl⟩
  unfold changeScale
  cases hk : i.key with
  | none => rw [hk] at h; cases h; rfl
  | some k => rw [hk] at h; simp only [h]

/-- one item: the syllable converter on the note-name spelling returns what the degree converter returns on the
degree spelling, with the scale `keyAfter` names carried on instead -/
theorem item_same (s : Scale) (hs : IsScale s) (a : AItem) (ha : a.WF) (s' : Scale) (hk : keyAfter s a = some s')
    (tonic : SNote) (ht : s'.notes.head? = some tonic) (it : Item) (hit : sylItem tonic a = some it) (sd : Scale) :
    IsScale s' ∧ convItem .syllable s it = (convItem .degree sd (degItem a)).map fun p => (p.1, s') := by
  obtain ⟨i1, hm, hcs, hcd⟩ := keyAfter_some hk
  have hs' : IsScale s' := changeScale_isScale .syllable s (fun _ => hs) i1 s' hcs rfl
  refine ⟨hs', ?_⟩
  cases a with
  | rest v m =>
    cases hit
    simp only [convItem, degItem, Item.mta, Item.vals, AItem.mta] at hm ⊢
    simp only [hm, hcs, hcd, ok_bind]
    cases convValues v <;> rfl
  | chord r sym b v m =>
    obtain ⟨rd, bd, rfl, hch⟩ := chord_same s' hs' tonic ht r ha.1 b ha.2 sym v m it hit sd
    simp only [convItem, degItem, Item.mta, Item.vals, AItem.mta] at hm ⊢
    simp only [hm, hcs, hcd, ok_bind, hch]
    cases convValues v with
    | error e => rfl
    | ok vs => cases convChord .degree sd (degNode r) sym (b.map degNode) <;> rfl

/-- **one progression, one meaning**: for every abstract progression (roots on degrees 1..7 with ♭/♮/♯, any symbol,
optional bass, rests, any metadata including key changes at arbitrary positions) and every start key: if it can be
spelled with note names at all, converting that spelling with `text conv syllable` gives exactly the instances that
converting its degree spelling with `text conv degree` gives -/
theorem degree_vs_syllable : ∀ (p : List AItem), (∀ a ∈ p, a.WF) → ∀ (s : Scale), IsScale s → ∀ (items : List Item),
    sylItems s p = some items → ∀ sd, convItems .syllable s items = convItems .degree sd (p.map degItem) := by
  intro p hwf s hs items h sd
  fun_induction sylItems s p generalizing items sd
  case case1 => cases h; rfl
  -- the one branch that succeeds: `it` spelled in the scale `s'` that `keyAfter` names, `its` from there on
  case case4 s a rest s' hk tonic ht it its hrest hit ih =>
    cases h
    obtain ⟨hs', hsame⟩ := item_same s hs a (hwf a (by simp)) s' hk tonic ht it hit sd
    have hrec := ih (fun x hx => hwf x (by simp [hx])) hs' its hrest
    simp only [List.map_cons, convItems, hsame]
    cases convItem .degree sd (degItem a) with
    | error e => rfl
    | ok p => simp only [Except.map, bind, Except.bind]; rw [hrec p.2]
  all_goals cases h
end Crd
