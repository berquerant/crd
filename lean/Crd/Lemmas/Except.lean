/-!
# `Except`: when a composite succeeds

One characterisation per way the command models are put together (`bind`, `map`, `mapM`); each command is taken apart
once, in its `_ok`/`_cases` lemma.
-/
namespace Crd

variable {ε α β : Type}

theorem bind_ok_iff {x : Except ε α} {f : α → Except ε β} {b : β} :
    x.bind f = .ok b ↔ ∃ a, x = .ok a ∧ f a = .ok b := by
  cases x <;> simp [Except.bind]

/-- the same for a step of a `do` block -/
theorem do_ok_iff {x : Except ε α} {f : α → Except ε β} {b : β} :
    (x >>= f) = .ok b ↔ ∃ a, x = .ok a ∧ f a = .ok b := bind_ok_iff

theorem ok_bind (a : α) (f : α → Except ε β) : (Except.ok a).bind f = f a := rfl

theorem ok_do (a : α) (f : α → Except ε β) : (Except.ok a >>= f) = f a := rfl

theorem error_of_not_ok {x : Except ε α} (h : ∀ a, x ≠ .ok a) : ∃ e, x = .error e := by
  cases x with
  | error e => exact ⟨e, rfl⟩
  | ok a => exact absurd rfl (h a)

theorem map_ok_iff {x : Except ε α} {g : α → β} {b : β} : x.map g = .ok b ↔ ∃ a, x = .ok a ∧ g a = b := by
  cases x <;> simp [Except.map]

theorem throw_bind_ok_iff {e : ε} {k : α → Except ε β} {b : β} : ((throw e : Except ε α) >>= k) = .ok b ↔ False := by
  simp [throw, throwThe, MonadExceptOf.throw, bind, Except.bind]

/-- `if c then throw e` in a `do` block (its continuation `x` follows on both branches) -/
theorem guard_ok_iff {c : Prop} [Decidable c] {e : ε} {k : α → Except ε β} {x : Except ε β} {b : β} :
    (if c then (throw e : Except ε α) >>= k else x) = .ok b ↔ ¬ c ∧ x = .ok b := by
  split <;> simp [*, throw_bind_ok_iff]

theorem mapM_cons_ok_iff {f : α → Except ε β} {a : α} {l : List α} {r : List β} :
    (a :: l).mapM f = .ok r ↔ ∃ b bs, f a = .ok b ∧ l.mapM f = .ok bs ∧ r = b :: bs := by
  simp only [List.mapM_cons, do_ok_iff, pure, Except.pure, Except.ok.injEq]
  exact ⟨fun ⟨b, hb, bs, hbs, e⟩ => ⟨b, bs, hb, hbs, e.symm⟩, fun ⟨b, bs, hb, hbs, e⟩ => ⟨b, hb, bs, hbs, e.symm⟩⟩

theorem mapM_ok_output {f : α → Except ε β} : ∀ {l : List α} {r : List β}, l.mapM f = .ok r →
    ∀ b ∈ r, ∃ a ∈ l, f a = .ok b
  | [], _, h, b, hb => by cases h; cases hb
  | a :: l, _, h, b, hb => by
    obtain ⟨b0, bs, h0, hs, rfl⟩ := mapM_cons_ok_iff.mp h
    rcases List.mem_cons.mp hb with rfl | hb
    · exact ⟨a, by simp, h0⟩
    · obtain ⟨a', ha', h'⟩ := mapM_ok_output hs b hb
      exact ⟨a', by simp [ha'], h'⟩

theorem mapM_ok_input {f : α → Except ε β} : ∀ {l : List α} {r : List β}, l.mapM f = .ok r →
    ∀ a ∈ l, ∃ b ∈ r, f a = .ok b
  | [], _, _, a, ha => by cases ha
  | a0 :: l, _, h, a, ha => by
    obtain ⟨b0, bs, h0, hs, rfl⟩ := mapM_cons_ok_iff.mp h
    rcases List.mem_cons.mp ha with rfl | ha
    · exact ⟨b0, by simp, h0⟩
    · obtain ⟨b, hb, h'⟩ := mapM_ok_input hs a ha
      exact ⟨b, by simp [hb], h'⟩

theorem mapM_ok_of_forall {f : α → Except ε α} : ∀ {l : List α}, (∀ a ∈ l, f a = .ok a) → l.mapM f = .ok l
  | [], _ => rfl
  | a :: l, h => mapM_cons_ok_iff.mpr ⟨a, l, h a (by simp), mapM_ok_of_forall fun x hx => h x (by simp [hx]), rfl⟩

end Crd
