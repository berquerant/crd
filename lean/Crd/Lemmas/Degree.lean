import Crd.Model.Note
import Crd.Spec.Theory

/-!
# `Degree.semitone` is the textbook interval size (`semitone_eq_spec`); valid intervals and their coerce names
-/
namespace Crd
open Generated Spec

def allQ : List Quality := [.unknown, .major, .minor, .perfect, .augmented, .diminished, .daug, .ddim]

theorem mem_allQ (q : Quality) : q ∈ allQ := by cases q <;> simp [allQ]

/-- base table + adjustment loop = textbook size, for every number 0..8 and every quality
(kernel evaluation over the regenerated table) -/
theorem base_ok : ∀ v ∈ List.range 9, ∀ q ∈ allQ, v ≠ 0 →
    baseSemitone degreeSemitoneTable ⟨v, q⟩ = specSize v q := by decide +kernel

theorem octave_facts : octaveDegree.value = 8 ∧ (lookup octaveDegree degreeSemitoneTable).getD 0 = 12 := by decide

theorem oct12 : octaveSemitones = 12 := by decide

theorem spec_step (v : Nat) (q : Quality) (h : 1 ≤ v) : specSize (v + 7) q = (specSize v q).map (· + 12) := by
  unfold specSize
  have h1 : (v + 7 - 1) % 7 = (v - 1) % 7 := by omega
  have h2 : (v + 7 - 1) / 7 = (v - 1) / 7 + 1 := by omega
  have h0 : ¬ (v + 7 = 0) := by omega
  have h0' : ¬ (v = 0) := by omega
  simp only [h0, h0', if_false, h1, h2]
  generalize perfectClass ((v - 1) % 7) = pc
  generalize majorScale ((v - 1) % 7) = m
  cases q <;> cases pc <;> simp <;> omega

theorem spec_shift (v k : Nat) (q : Quality) (h : 1 ≤ v) :
    specSize (v + 7 * k) q = (specSize v q).map (· + 12 * (k : Int)) := by
  induction k with
  | zero => cases specSize v q <;> simp
  | succ k ih =>
    have : v + 7 * (k + 1) = (v + 7 * k) + 7 := by omega
    rw [this, spec_step _ _ (by omega), ih]
    cases specSize v q <;> simp
    omega

/-- **C15 core**: crd's interval size function is the textbook one, for every number and quality -/
theorem semitone_eq_spec (d : Degree) : d.semitone = specSize d.value d.name := by
  obtain ⟨v, q⟩ := d
  obtain ⟨h8, h12⟩ := octave_facts
  unfold Degree.semitone Degree.semitoneWith
  simp only [h8, h12]
  by_cases h0 : v = 0
  · simp [h0, specSize]
  · by_cases hle : v ≤ 8
    · simp only [h0, hle, if_true, if_false]
      exact base_ok v (by simp; omega) q (mem_allQ q) h0
    · simp only [h0, hle, if_false]
      have he1 : 2 ≤ v - (8 - 1) * ((v - 2) / (8 - 1)) := by omega
      have he2 : v - (8 - 1) * ((v - 2) / (8 - 1)) ≤ 8 := by omega
      generalize hk : (v - 2) / (8 - 1) = k at he1 he2 ⊢
      generalize he : v - (8 - 1) * k = e at he1 he2 ⊢
      have hv : v = e + 7 * k := by omega
      unfold simpleSemitone
      have he0 : ¬ (e = 0) := by omega
      simp only [he0, h8, he2, if_true, if_false]
      rw [base_ok e (by simp; omega) q (mem_allQ q) he0, hv, spec_shift e k q (by omega)]
      cases specSize e q <;> simp
      omega

/-- being a `valid` interval (crd: `NewDegree` succeeds) -/
def Degree.valid (d : Degree) : Bool := d.semitone.isSome

theorem newDegree_eq (v : Nat) (q : Quality) :
    newDegree v q = if (specSize v q).isSome then some ⟨v, q⟩ else none := by
  unfold newDegree; rw [semitone_eq_spec]

theorem spec_major_perfect_excl (v : Nat) : (specSize v .major).isSome → specSize v .perfect = none := by
  unfold specSize
  by_cases h : v = 0 <;> simp [h]
  cases perfectClass ((v - 1) % 7) <;> simp

theorem coerce_facts :
    Quality.coerce .major = .majPerf ∧ Quality.coerce .perfect = .majPerf ∧ Quality.coerce .minor = .minDim ∧
    Quality.coerce .diminished = .dim ∧ Quality.coerce .augmented = .aug ∧ Quality.coerce .daug = .daug ∧
    Quality.coerce .ddim = .ddim ∧ Quality.coerce .unknown = .unknown ∧
    Coerce.str? .majPerf = some "" ∧ Coerce.str? .minDim = some "b" ∧ Coerce.str? .aug = some "#" ∧
    Coerce.str? .dim = some "bb" ∧ Coerce.str? .daug = some "##" ∧ Coerce.str? .ddim = some "bbb" ∧
    Coerce.str? .unknown = none := by decide

/-- `CoerceDegreeName.Degree` recovers a valid degree from its coerce name and number -/
theorem coerce_degree_of_valid (d : Degree) (h : d.valid) : d.name.coerce.degree d.value = some d := by
  obtain ⟨v, q⟩ := d
  have hs : (specSize v q).isSome := by unfold Degree.valid at h; rwa [semitone_eq_spec] at h
  obtain ⟨c1, c2, c3, c4, c5, c6, c7, c8, -⟩ := coerce_facts
  cases q
  · simp [specSize] at hs
  · simp only [c1, Coerce.degree, newDegree_eq, hs, if_true]; rfl
  · simp only [c3, Coerce.degree, newDegree_eq, hs, if_true]; rfl
  · simp only [c2, Coerce.degree, newDegree_eq, hs, if_true]
    have := mt (spec_major_perfect_excl v) (Option.isSome_iff_ne_none.mp hs)
    simp [this]
  · simp only [c5, Coerce.degree, newDegree_eq, hs, if_true]
  · simp only [c4, Coerce.degree, newDegree_eq, hs, if_true]
  · simp only [c6, Coerce.degree, newDegree_eq, hs, if_true]
  · simp only [c7, Coerce.degree, newDegree_eq, hs, if_true]

end Crd
