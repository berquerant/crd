import Crd.Model.Scale
import Crd.Lemmas.Lookup

/-!
# `newScale`: which keys have a scale, and what the signature table must be for that
-/
namespace Crd
open Generated

theorem acc_tables : (∀ a ∈ Generated.accExtraSpellings.map (·.2), a = Acc.sharp ∨ a = Acc.flat) ∧
    (∀ p ∈ Generated.accStringTable, p.1 = Acc.natural ∨ p.1 = Acc.sharp ∨ p.1 = Acc.flat) := by decide

/-- `op.NewAccidental` never yields the unknown accidental -/
theorem acc_ofString (s : String) : Acc.ofString s = .natural ∨ Acc.ofString s = .sharp ∨ Acc.ofString s = .flat := by
  unfold Acc.ofString
  cases h : lookup s Generated.accExtraSpellings with
  | some a =>
    have := acc_tables.1 a (List.mem_map.mpr ⟨_, lookup_mem s _ a h, rfl⟩)
    rcases this with rfl | rfl <;> simp
  | none =>
    simp only
    cases hf : Generated.accStringTable.find? (fun p => p.2 = s) with
    | none => simp
    | some p =>
      have := acc_tables.2 p (List.mem_of_find?_eq_some hf)
      simpa using this

theorem newScale_key {k : Key} {s : Scale} (h : newScale k = some s) : s.key = k := by
  unfold newScale at h
  split at h
  · cases h
  · cases h; rfl

theorem newScale_isSome_iff {k : Key} : (newScale k).isSome = true ↔ k ∈ supportedKeys := by
  have e : (newScale k).isSome = (signatureOf k).isSome := by
    unfold newScale; cases signatureOf k <;> rfl
  rw [e, supportedKeys, List.mem_filterMap]
  constructor
  · intro h
    obtain ⟨n, hn⟩ := Option.isSome_iff_exists.mp h
    exact ⟨(some k, n), lookup_mem (some k) keySignatureTable n hn, rfl⟩
  · rintro ⟨⟨_, n⟩, hm, rfl⟩
    exact lookup_isSome_of_mem hm

/-- `newScaleAccidentals` takes its letters from `flatSequence`: a scale has at most that many accidentals, all of
one kind -/
theorem newScale_accidentals {k : Key} {s : Scale} (h : newScale k = some s) :
    s.flat + s.sharp ≤ flatSequence.length ∧ (s.flat = 0 ∨ s.sharp = 0) := by
  unfold newScale at h
  split at h
  · cases h
  · cases h
    simp only [newScaleAccidentals]
    split
    · simp [List.length_take]; omega
    · split <;> simp [List.length_drop]

/-- the signature table is a map from keys with a tonic pitch: every key string parses to one, no two to the same -/
theorem signature_table_wf : (keySignatureTable.map (·.1)).Nodup ∧
    ∀ e ∈ keySignatureTable, (e.1.bind Key.semitone?).isSome = true := by decide +kernel

theorem supported_semitone {k : Key} (h : k ∈ supportedKeys) : k.semitone?.isSome = true := by
  obtain ⟨e, he, hk⟩ := List.mem_filterMap.mp h
  have := signature_table_wf.2 e he
  rwa [show e.1 = some k from hk] at this

end Crd
