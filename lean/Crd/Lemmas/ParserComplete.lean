import Crd.Lemmas.ParserSound

/-!
# Completeness of the hand-written parser: every sentence of the spelled-out language is accepted
-/
namespace Crd
open Spec

def nextK (r : List Tok) : Option TK := r.head?.map (·.k)

@[simp] theorem nextK_nil : nextK [] = none := rfl
@[simp] theorem nextK_cons (t : Tok) (r : List Tok) : nextK (t :: r) = some t.k := rfl

theorem nextK_eq_head (r : List Tok) : nextK r = (kinds r).head? := by cases r <;> rfl

theorem kinds_eq_nil {ts : List Tok} : kinds ts = [] ↔ ts = [] := List.map_eq_nil_iff

theorem kinds_eq_cons {ts : List Tok} {k : TK} {ks : List TK} :
    kinds ts = k :: ks ↔ ∃ t rest, ts = t :: rest ∧ t.k = k ∧ kinds rest = ks := List.map_eq_cons_iff

theorem kinds_eq_append {ts : List Tok} {a b : List TK} :
    kinds ts = a ++ b ↔ ∃ ta tb, ts = ta ++ tb ∧ kinds ta = a ∧ kinds tb = b := List.map_eq_append_iff

/-- `p` accepts every prefix whose kinds are in `L`, provided what follows satisfies `ok` -/
def Complete {α : Type} (p : List Tok → Option (α × List Tok)) (L : List TK → Prop) (ok : List Tok → Prop) : Prop :=
  ∀ pre r, L (kinds pre) → ok r → ∃ v, p (pre ++ r) = some (v, r)

theorem ldegree_first (d : List TK) (h : LDegree d) : ∃ k rest, d = k :: rest ∧ (k = .SYLLABLE ∨ k = .NUMBER) := by
  cases h <;> simp

theorem pDegree_complete : Complete pDegree LDegree fun r => nextK r ≠ some .SHARP ∧ nextK r ≠ some .FLAT := by
  intro pre r h hf
  obtain ⟨k, hk, h | ⟨a, ha, h⟩⟩ := ldegree_iff.mp h <;> simp only [kinds_eq_cons, kinds_eq_nil] at h
  · obtain ⟨t, _, rfl, rfl, rfl⟩ := h
    cases r <;> simp_all [pDegree]
  · obtain ⟨t, _, rfl, rfl, a, _, rfl, rfl, rfl⟩ := h
    simp [pDegree, hk, ha]

theorem pSymbol_complete : Complete pSymbol LSymbol fun r => nextK r ≠ some .SYMBOL ∧ nextK r ≠ some .UNDERSCORE := by
  intro pre r h hf
  generalize hk : kinds pre = ks at h
  cases h <;> simp only [kinds_eq_cons, kinds_eq_nil] at hk
  · subst hk; cases r <;> simp_all [pSymbol]
  · obtain ⟨t, _, rfl, ht, rfl⟩ := hk
    simp [pSymbol, ht]
  · obtain ⟨t, _, rfl, ht, a, _, rfl, ha, rfl⟩ := hk
    simp [pSymbol, ht, ha]

theorem pValue_complete : Complete pValue LValue fun r => nextK r ≠ some .SLASH := by
  intro pre r h hf
  generalize hk : kinds pre = ks at h
  cases h <;> simp only [kinds_eq_cons, kinds_eq_nil] at hk
  · obtain ⟨t, _, rfl, ht, rfl⟩ := hk
    rcases r with _ | ⟨a, _ | ⟨b, r⟩⟩ <;> simp_all [pValue]
  · obtain ⟨t, _, rfl, ht, a, _, rfl, ha, b, _, rfl, hb, rfl⟩ := hk
    simp [pValue, ht, ha, hb]

theorem pMetadata_complete : Complete pMetadata (· = [.METADATA, .EQUAL, .METADATA]) fun _ => True := by
  intro pre r h _
  simp only [kinds_eq_cons, kinds_eq_nil] at h
  obtain ⟨t, _, rfl, ht, a, _, rfl, ha, b, _, rfl, hb, rfl⟩ := h
  simp [pMetadata, ht, ha, hb]

theorem pBase_complete :
    Complete pBase LBase fun r => nextK r ≠ some .SLASH ∧ nextK r ≠ some .SHARP ∧ nextK r ≠ some .FLAT := by
  intro pre r h hf
  generalize hk : kinds pre = ks at h
  cases h <;> simp only [kinds_eq_cons, kinds_eq_nil] at hk
  · subst hk; cases r <;> simp_all [pBase]
  · next d hd =>
    obtain ⟨t, pd, rfl, ht, rfl⟩ := hk
    obtain ⟨dg, hdg⟩ := pDegree_complete pd r hd hf.2
    simp [pBase, ht, hdg]

/-- a member, then the loop over `(COMMA member)*`: `ok` has to hold of what follows the whole list and of
everything that begins with a comma -/
theorem sepBy_complete {α : Type} {p : List Tok → Option (α × List Tok)} {L ok} (hp : Complete p L ok)
    (hok : ∀ x, nextK x = some .COMMA → ok x) (r : List Tok) (hc : nextK r ≠ some .COMMA) (hr : ok r) :
    ∀ pt, Rep [.COMMA] L (kinds pt) → ∀ pv, L (kinds pv) → ∀ (f : Nat) (acc : List α), pt.length < f →
      ∃ v more, p (pv ++ (pt ++ r)) = some (v, pt ++ r) ∧
        sepTail p f (pt ++ r) (acc ++ [v]) = some (acc ++ v :: more, r) := by
  intro pt h
  generalize hk : kinds pt = ks at h
  induction h generalizing pt with
  | nil =>
    intro pv hpv f acc hf
    obtain rfl := kinds_eq_nil.mp hk
    obtain ⟨f, rfl⟩ : ∃ g, f = g + 1 := ⟨f - 1, by omega⟩
    obtain ⟨v, hv⟩ := hp pv r hpv hr
    exact ⟨v, [], hv, by cases r <;> simp_all [sepTail]⟩
  | cons v' rest hv' _ ih =>
    intro pv hpv f acc hf
    simp only [List.cons_append, List.nil_append, kinds_eq_cons, kinds_eq_append] at hk
    obtain ⟨c, _, rfl, hck, pv', pt, rfl, rfl, rfl⟩ := hk
    obtain ⟨f, rfl⟩ : ∃ g, f = g + 1 := ⟨f - 1, by omega⟩
    obtain ⟨v, hv⟩ := hp pv (c :: (pv' ++ pt) ++ r) hpv (hok _ (by simp [hck]))
    obtain ⟨v2, more, h1, h2⟩ := ih pt rfl pv' hv' f (acc ++ [v]) (by simp at hf; omega)
    exact ⟨v, v2 :: more, hv, by simp_all [sepTail]⟩

theorem pValues_complete :
    Complete pValues LValues fun r => nextK r ≠ some .COMMA ∧ nextK r ≠ some .SLASH := by
  intro pre r h ⟨hc, hs⟩
  obtain ⟨v, t, hk, hv, ht⟩ := lvalues_iff.mp h
  obtain ⟨pv, pt, rfl, rfl, rfl⟩ := kinds_eq_append.mp hk
  obtain ⟨val, more, h1, h2⟩ := sepBy_complete pValue_complete (fun x h => by simp [h]) r hc hs pt ht pv hv
    ((pv ++ pt ++ r).length + 1) [] (by simp; omega)
  exact ⟨val :: more, by simp_all [pValues, pValuesTail_eq]⟩

theorem pMeta_complete : Complete pMeta LMeta fun r => nextK r ≠ some .LCBRA := by
  intro pre r h hf
  generalize hk : kinds pre = ks at h
  cases h with
  | none =>
    obtain rfl := kinds_eq_nil.mp hk
    cases r <;> simp_all [pMeta]
  | some ms hms =>
    obtain ⟨_, t, rfl, rfl, ht⟩ := lmetaint_iff.mp hms
    obtain ⟨l, _, rfl, hl, hk⟩ := kinds_eq_cons.mp hk
    obtain ⟨_, pc, rfl, hk, hkc⟩ := kinds_eq_append.mp hk
    obtain ⟨pm, pt, rfl, hkm, rfl⟩ := kinds_eq_append.mp hk
    simp only [kinds_eq_cons, kinds_eq_nil] at hkc
    obtain ⟨c, _, rfl, hc, rfl⟩ := hkc
    obtain ⟨m0, more, h1, h2⟩ := sepBy_complete pMetadata_complete (fun _ _ => trivial) (c :: r) (by simp [hc]) trivial
      pt ht pm hkm ((l :: (pm ++ pt ++ [c]) ++ r).length + 1) [] (by simp; omega)
    exact ⟨some (m0 :: more), by simp_all [pMeta, pMetaTail_eq]⟩

theorem pBody_complete (lb rb : Tok) (pv pm r : List Tok) (hl : lb.k = .LBRA) (hr : rb.k = .RBRA)
    (hv : LValues (kinds pv)) (hm : LMeta (kinds pm)) (hf : nextK r ≠ some .LCBRA) :
    ∃ vs m, pBody (lb :: (pv ++ rb :: (pm ++ r))) = some (vs, m, r) := by
  obtain ⟨vs, hvs⟩ := pValues_complete pv (rb :: (pm ++ r)) hv (by simp [hr])
  obtain ⟨m, hmm⟩ := pMeta_complete pm r hm hf
  exact ⟨vs, m, by simp [pBody, hl, hvs, hr, hmm]⟩

theorem pItem_complete : Complete pItem LItem fun r => nextK r ≠ some .LCBRA := by
  intro pre r h hf
  generalize hk : kinds pre = ks at h
  cases h with
  | rest vs m hv hm =>
    simp only [List.cons_append, kinds_eq_cons, kinds_eq_append] at hk
    obtain ⟨t, _, rfl, ht, lb, _, rfl, hl, pv, _, rfl, rfl, rb, pm, rfl, hrb, rfl⟩ := hk
    obtain ⟨vs', m', hb⟩ := pBody_complete lb rb pv pm r hl hrb hv hm hf
    exact ⟨.rest vs' m', by simp_all [pItem]⟩
  | chord d s b vs m hd hs hb hv hm =>
    simp only [List.append_assoc, List.cons_append, kinds_eq_cons, kinds_eq_append] at hk
    obtain ⟨pd, _, rfl, rfl, ps, _, rfl, hks, pb, _, rfl, hkb, lb, _, rfl, hl, pv, _, rfl, rfl, rb, pm, rfl, hrb, rfl⟩ := hk
    simp only [List.append_assoc, List.cons_append]
    generalize hx : pv ++ rb :: (pm ++ r) = x
    -- after the degree comes a symbol, a bass or `[`; after the symbol a bass or `[`
    have f1 : nextK (ps ++ (pb ++ lb :: x)) ≠ some .SHARP ∧ nextK (ps ++ (pb ++ lb :: x)) ≠ some .FLAT := by
      cases hs <;> cases hb <;> simp [nextK_eq_head, hks, hkb, hl]
    have f2 : nextK (pb ++ lb :: x) ≠ some .SYMBOL ∧ nextK (pb ++ lb :: x) ≠ some .UNDERSCORE := by
      cases hb <;> simp [nextK_eq_head, hkb, hl]
    obtain ⟨dg, hdg⟩ := pDegree_complete pd _ hd f1
    obtain ⟨sy, hsy⟩ := pSymbol_complete ps _ (hks ▸ hs) f2
    obtain ⟨bs, hbs⟩ := pBase_complete pb (lb :: x) (hkb ▸ hb) (by simp [hl])
    obtain ⟨vs', m', hbody⟩ := pBody_complete lb rb pv pm r hl hrb hv hm hf
    obtain ⟨k, _, hk, hk'⟩ := ldegree_first _ hd
    obtain ⟨t, _, rfl, rfl, -⟩ := kinds_eq_cons.mp hk
    have : t.k ≠ .REST := by rcases hk' with h | h <;> simp [h]
    exact ⟨.chord dg sy bs vs' m', by simp_all [pItem]⟩

theorem litem_first (i : List TK) (h : LItem i) : ∃ k rest, i = k :: rest ∧ k ≠ .LCBRA := by
  cases h with
  | rest vs m _ _ => exact ⟨_, _, rfl, by simp⟩
  | chord d s b vs m hd _ _ _ _ =>
    obtain ⟨k, rest, rfl, hk⟩ := ldegree_first d hd
    exact ⟨k, _, by simp only [List.cons_append, List.append_assoc]; rfl, by rcases hk with rfl | rfl <;> simp⟩

theorem pItems_complete : ∀ (ts : List Tok), Rep [] LItem (kinds ts) → ∀ (f : Nat) (acc : List Item),
    ts.length < f → (ts = [] → acc ≠ []) → ∃ more, pItems f ts acc = some (acc ++ more) := by
  intro ts h
  generalize hk : kinds ts = ks at h
  induction h generalizing ts with
  | nil =>
    intro f acc hf hne
    obtain rfl := kinds_eq_nil.mp hk
    obtain ⟨f, rfl⟩ : ∃ g, f = g + 1 := ⟨f - 1, by omega⟩
    exact ⟨[], by simpa [pItems] using hne rfl⟩
  | cons i rest hi hrest ih =>
    intro f acc hf _
    obtain ⟨pi, pr, rfl, rfl, hkr⟩ := kinds_eq_append.mp hk
    obtain ⟨f, rfl⟩ : ∃ g, f = g + 1 := ⟨f - 1, by omega⟩
    -- the next item, if any, does not begin with `{`; this one is not empty
    have hnext : nextK pr ≠ some .LCBRA := by
      rw [nextK_eq_head, hkr]
      cases hrest with
      | nil => simp
      | cons i' _ hi' _ =>
        obtain ⟨k', _, rfl, hne⟩ := litem_first _ hi'
        simpa using hne
    obtain ⟨it, hit⟩ := pItem_complete pi pr hi hnext
    obtain ⟨k, _, hk, -⟩ := litem_first _ hi
    obtain ⟨t, pi, rfl, -, -⟩ := kinds_eq_cons.mp hk
    obtain ⟨more, hmore⟩ := ih pr hkr f (acc ++ [it]) (by simp at hf ⊢; omega) (by simp)
    exact ⟨it :: more, by simp_all [pItems]⟩

/-- **completeness**: every token list whose kinds form a sentence of the chord language is accepted -/
theorem parseToks_complete (ts : List Tok) (h : LList (kinds ts)) : ∃ items, parseToks ts = some items := by
  obtain ⟨i, t, hk, hi, ht⟩ := llist_iff.mp h
  obtain ⟨k, _, rfl, -⟩ := litem_first i hi
  obtain ⟨more, hmore⟩ := pItems_complete ts (hk ▸ .cons _ t hi ht) (ts.length + 1) [] (by omega)
    (fun he => by simp [he] at hk)
  exact ⟨more, by simpa [parseToks] using hmore⟩

/-- **the parser decides the chord language** -/
theorem parseToks_iff (ts : List Tok) : (parseToks ts).isSome = true ↔ LList (kinds ts) := by
  constructor
  · intro h
    obtain ⟨items, hp⟩ := Option.isSome_iff_exists.mp h
    exact (parseToks_sound ts items hp).1
  · intro h
    obtain ⟨items, hi⟩ := parseToks_complete ts h
    simp [hi]

end Crd
