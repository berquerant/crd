import Crd.Props.C08
import Crd.Lemmas.InstanceRT

/-!
# Every note-on of a written track is closed by a note-off of the same key and channel, as the strict reader sees it
-/
namespace Crd
open Crd.Spec Crd.Props.C06 Crd.Props.C08

/-- the walk of `notesBalanced` depends on the multiset of open notes only -/
theorem go_perm : ∀ (evs : List SEvent) (o₁ o₂ : List (Nat × Nat)), o₁.Perm o₂ →
    notesBalanced.go o₁ evs = notesBalanced.go o₂ evs := by
  intro evs
  induction evs with
  | nil => intro o₁ o₂ hp; exact hp.isEmpty_eq
  | cons e r ih =>
    intro o₁ o₂ hp
    simp only [notesBalanced.go, hp.contains_eq]
    cases isNoteOn e with
    | some x => exact ih _ _ (hp.cons _)
    | none =>
      cases isNoteOff e with
      | none => exact ih _ _ hp
      | some ck =>
        simp only
        split
        · exact ih _ _ (hp.erase ck)
        · rfl

/-- the reader's view of an event, whatever its delta -/
def evS (e : Ev) : SEvent := toS (0, e)

theorem toS_on (x : Nat × Ev) : isNoteOn (toS x) = isNoteOn (evS x.2) ∧ isNoteOff (toS x) = isNoteOff (evS x.2) := by
  obtain ⟨d, e⟩ := x
  cases e <;> simp [toS, evS, Ev.metaParts, Ev.chanParts, isNoteOn, isNoteOff]

theorem evS_on (k vel : Nat) (hv : 0 < min vel 127) : isNoteOn (evS (.noteOn 0 k vel)) = some (0, min k 127, min vel 127) := by
  simp [evS, toS, Ev.metaParts, Ev.chanParts, isNoteOn]; omega

theorem evS_off (k : Nat) : isNoteOn (evS (.noteOff 0 k)) = none ∧ isNoteOff (evS (.noteOff 0 k)) = some (0, min k 127) := by
  simp [evS, toS, Ev.metaParts, Ev.chanParts, isNoteOn, isNoteOff]

theorem evS_meta (e : Ev) (h : isMetaEv e = true ∨ e = .close ∨ ∃ c p, e = .program c p) :
    isNoteOn (evS e) = none ∧ isNoteOff (evS e) = none := by
  rcases h with h | rfl | ⟨c, p, rfl⟩
  · cases e <;> simp [isMetaEv] at h <;> simp [evS, toS, Ev.metaParts, isNoteOn, isNoteOff]
  · simp [evS, toS, Ev.metaParts, isNoteOn, isNoteOff]
  · simp [evS, toS, Ev.metaParts, Ev.chanParts, isNoteOn, isNoteOff]

/-- the walk sees an event only through `isNoteOn` / `isNoteOff` -/
theorem go_map_congr {α} (f g : α → SEvent) (h : ∀ a, isNoteOn (f a) = isNoteOn (g a) ∧ isNoteOff (f a) = isNoteOff (g a)) :
    ∀ (l : List α) (o : List (Nat × Nat)), notesBalanced.go o (l.map f) = notesBalanced.go o (l.map g) := by
  intro l
  induction l with
  | nil => intro o; rfl
  | cons a r ih =>
    intro o
    simp only [List.map_cons, notesBalanced.go, (h a).1, (h a).2, ih]

/-- note-ons for the keys that `key` names in `K` push them -/
theorem go_ons {α} (key : α → Nat) {vel : Nat} (hv : 0 < min vel 127) : ∀ (K : List α) (o : List (Nat × Nat)) (rest : List SEvent),
    notesBalanced.go o (K.map (fun p => evS (.noteOn 0 (key p) vel)) ++ rest) =
      notesBalanced.go ((K.map fun p => (0, min (key p) 127)).reverse ++ o) rest := by
  intro K
  induction K with
  | nil => intro o rest; rfl
  | cons p K ih =>
    intro o rest
    simp only [List.map_cons, List.cons_append, notesBalanced.go, evS_on (key p) vel hv]
    rw [ih]
    simp [List.reverse_cons, List.append_assoc]

/-- note-offs for the same keys pop them again -/
theorem go_offs {α} (key : α → Nat) : ∀ (K : List α) (o : List (Nat × Nat)) (rest : List SEvent),
    notesBalanced.go ((K.map fun p => (0, min (key p) 127)).reverse ++ o) (K.map (fun p => evS (.noteOff 0 (key p))) ++ rest) =
      notesBalanced.go o rest := by
  intro K
  induction K with
  | nil => intro o rest; rfl
  | cons p K ih =>
    intro o rest
    have hperm : (((p :: K).map fun q => ((0 : Nat), min (key q) 127)).reverse ++ o).Perm
        (((0 : Nat), min (key p) 127) :: ((K.map fun q => ((0 : Nat), min (key q) 127)).reverse ++ o)) := by
      simp only [List.map_cons, List.reverse_cons, List.append_assoc, List.singleton_append]
      exact List.perm_middle
    rw [go_perm _ _ _ hperm]
    simp only [List.map_cons, List.cons_append, notesBalanced.go, (evS_off (key p)).1, (evS_off (key p)).2]
    simp only [List.contains_cons, beq_self_eq_true, Bool.true_or, if_true, List.erase_cons_head]
    exact ih o rest

theorem go_skip_all : ∀ (es : List SEvent), (∀ e ∈ es, isNoteOn e = none ∧ isNoteOff e = none) →
    ∀ (o : List (Nat × Nat)) (rest : List SEvent), notesBalanced.go o (es ++ rest) = notesBalanced.go o rest := by
  intro es
  induction es with
  | nil => intro _ o rest; rfl
  | cons e es ih =>
    intro h o rest
    simp only [List.cons_append, notesBalanced.go, (h e (by simp)).1, (h e (by simp)).2]
    exact ih (fun x hx => h x (by simp [hx])) o rest

/-- **the share of any track of the piece's timeline is balanced**: walking it returns to the open notes it started
with.  The reader takes a note-on of velocity 0 for a note-off, so no dynamic that comes into force may strike one. -/
theorem pieceLog_balanced (τ : List Rat' → Nat) (d : Dict) (N t : Nat) {is : List Instance}
    (hk : ∀ i ∈ is, ∀ v, i.velocity = some v → 0 < min (v.velocity % 256) 127) :
    ∀ T first k0 v0, 0 < min (v0.velocity % 256) 127 → ∀ (o : List (Nat × Nat)) (rest : List SEvent),
      notesBalanced.go o ((((pieceLog τ d T first k0 v0 is).filter (fun e => route N e = t)).map fun e => evS e.2.2) ++ rest) =
        notesBalanced.go o rest := by
  induction is with
  | nil => intro T first k0 v0 _ o rest; simp [pieceLog]
  | cons i is ih =>
    intro T first k0 v0 hv0 o rest
    have hv : 0 < min ((i.velocity.getD v0).velocity % 256) 127 := by
      cases hiv : i.velocity with
      | none => simpa using hv0
      | some v => exact hk i (by simp) v hiv
    rw [pieceLog_cons]
    simp only [List.filter_append, List.map_append, List.append_assoc]
    -- settings: ignored by the walk
    rw [go_skip_all]
    · obtain ⟨picked, hon, hoff⟩ := notes_paired_per_track d (i.key.getD k0) (i.velocity.getD v0) T (T + τ i.values) i N t
      rw [hon, hoff]
      simp only [List.map_map, Function.comp_def]
      rw [go_ons Prod.snd hv, go_offs Prod.snd]
      exact ih (fun j hj => hk j (by simp [hj])) _ _ _ _ hv o rest
    · intro e he
      obtain ⟨x, hx, rfl⟩ := List.mem_map.mp he
      obtain ⟨_, _, c, _, ev, hce, rfl⟩ := mem_instSettings (List.mem_filter.mp hx).1
      apply evS_meta; left
      cases c <;> simp [WCall.metaEv] at hce <;> subst hce <;> rfl

/-- the six dynamics that can be in force never strike a note with velocity 0 -/
theorem vel_pos : ∀ v ∈ sixDyns, 0 < min (v.velocity % 256) 127 := by decide

def KnownDyns (is : List Instance) : Prop := ∀ i ∈ is, ∀ v, i.velocity = some v → v ∈ sixDyns

/-- the share of any track of the reference timeline is balanced: the writer's three initial events are no notes, and
the piece is `pieceLog_balanced` -/
theorem refTimeline_balanced (f : WriteFlags) (d : Dict) (N i : Nat) {is' : List Instance} (hk : KnownDyns is')
    (o : List (Nat × Nat)) (rest : List SEvent) :
    notesBalanced.go o ((((refTimeline f d is').filter fun e => route N e = i).map fun e => evS e.2.2) ++ rest) =
      notesBalanced.go o rest := by
  rw [refTimeline, List.filter_append, List.map_append, List.append_assoc, go_skip_all,
    pieceLog_balanced goTicks d N i (fun j hj v hv => vel_pos v (hk j hj v hv)) 0 true _ _ (by decide)]
  refine List.forall_mem_map.mpr fun x hx => ?_
  have hx := (List.mem_filter.mp hx).1
  simp only [initLog, List.mem_cons, List.mem_nil_iff, or_false] at hx
  rcases hx with rfl | rfl | rfl
  · exact evS_meta _ (.inl rfl)
  · exact evS_meta _ (.inl rfl)
  · exact evS_meta _ (.inr (.inr ⟨_, _, rfl⟩))

/-- a written track is balanced as the strict reader sees it, provided only the six dynamics can be in force -/
theorem TrackRun.balanced {f : WriteFlags} {d : Dict} {is' : List Instance} {N i : Nat} {t : Track}
    (r : TrackRun f d is' N i t) (hk : KnownDyns is') : notesBalanced (t.ops.map toS) = true := by
  -- the walk sees an event through `evS`, whatever its delta
  have hc : notesBalanced (t.ops.map toS) = notesBalanced.go [] ((t.ops.map (·.2)).map evS) := by
    rw [List.map_map]; exact go_map_congr toS (evS ∘ (·.2)) toS_on _ _
  rw [hc, r.events, List.map_append, List.map_map]
  simp only [Function.comp_def]
  rw [refTimeline_balanced f d N i hk]
  simp [notesBalanced.go, evS_meta .close (.inr (.inl rfl))]

end Crd
