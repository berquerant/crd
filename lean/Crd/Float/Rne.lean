import Mathlib.Algebra.Order.Field.Power
import Mathlib.Tactic.Linarith
import Mathlib.Tactic.Ring
import Mathlib.Tactic.FieldSimp
import Mathlib.Tactic.Positivity
import Crd.Model.F64

/-!
# Error analysis of the soft-float model (`Crd/Model/F64.lean`) over ℚ  — Mathlib tactics, proof module only

`rne p q s` is within relative error 2⁻⁵³ of the exact `p/q · 2^s`.
-/
namespace Crd

theorem two_zpow_toNat {e : ℤ} (h : 0 ≤ e) : ((2 ^ e.toNat : ℕ) : ℚ) = 2 ^ e := by
  rw [Nat.cast_pow, ← zpow_natCast, Int.toNat_of_nonneg h]; rfl

theorem natDiv_floor (a : ℕ) {b : ℕ} (hb : 0 < b) :
    ((a / b : ℕ) : ℚ) ≤ (a : ℚ) / b ∧ (a : ℚ) / b < ((a / b : ℕ) : ℚ) + 1 := by
  have hbq : (0 : ℚ) < b := by exact_mod_cast hb
  rw [le_div_iff₀ hbq, div_lt_iff₀ hbq]
  constructor
  · exact_mod_cast Nat.div_mul_le_self a b
  · have := Nat.lt_div_mul_add (a := a) hb
    exact_mod_cast (by rwa [← Nat.succ_mul] at this : a < (a / b + 1) * b)

theorem roundNE_cases (num den : ℕ) :
    roundNE num den = num / den ∧ 2 * (num % den) ≤ den ∨ roundNE num den = num / den + 1 ∧ den ≤ 2 * (num % den) := by
  simp only [roundNE]
  split_ifs <;> omega

theorem roundNE_mul_self (n : ℕ) {den : ℕ} (hd : 0 < den) : roundNE (n * den) den = n := by
  rcases roundNE_cases (n * den) den with ⟨h, -⟩ | ⟨-, h⟩
  · rw [h, Nat.mul_div_cancel _ hd]
  · rw [Nat.mul_mod_left] at h; omega

theorem roundNE_err (num den : Nat) (hd : 0 < den) :
    |((roundNE num den : ℕ) : ℚ) - (num : ℚ) / den| ≤ 1 / 2 := by
  have hdq : (0 : ℚ) < den := by exact_mod_cast hd
  -- in ℕ: 2·den·R is within den of 2·num
  have hN : 2 * (den * roundNE num den) ≤ 2 * num + den ∧ 2 * num ≤ 2 * (den * roundNE num den) + den := by
    have := Nat.div_add_mod num den; have := Nat.mod_lt num hd
    rcases roundNE_cases num den with ⟨h, hr⟩ | ⟨h, hr⟩ <;> rw [h]
    · omega
    · rw [Nat.mul_add_one]; omega
  have h1 : (2 : ℚ) * (den * roundNE num den) ≤ 2 * num + den := by exact_mod_cast hN.1
  have h2 : (2 : ℚ) * num ≤ 2 * (den * roundNE num den) + den := by exact_mod_cast hN.2
  rw [sub_div' hdq.ne', abs_div, abs_of_pos hdq, div_le_iff₀ hdq, abs_le]
  constructor <;> linarith only [h1, h2]

theorem bracket (p q : Nat) (hp : 0 < p) (hq : 0 < q) :
    let K := q.log2 + 1
    let n := p * 2 ^ K / q
    n ≠ 0 ∧ ((2 : ℚ) ^ n.log2 ≤ (p : ℚ) / q * 2 ^ K) ∧ ((p : ℚ) / q * 2 ^ K < 2 ^ (n.log2 + 1)) := by
  intro K n
  have hK : q < 2 ^ K := Nat.lt_log2_self
  have hn0 : n ≠ 0 := (Nat.div_pos (hK.le.trans (Nat.le_mul_of_pos_left _ hp)) hq).ne'
  -- n is the floor of (p/q)·2^K, and 2^L ≤ n < n + 1 ≤ 2^(L+1)
  obtain ⟨hlo, hhi⟩ := natDiv_floor (p * 2 ^ K) hq
  rw [show ((p * 2 ^ K : ℕ) : ℚ) / q = (p : ℚ) / q * 2 ^ K by push_cast; ring] at hlo hhi
  refine ⟨hn0, le_trans ?_ hlo, hhi.trans_le ?_⟩
  · exact_mod_cast Nat.log2_self_le hn0
  · exact_mod_cast (Nat.lt_log2_self : n < 2 ^ (n.log2 + 1))

/-- the rational a soft float stands for -/
def F.val (a : F) : ℚ := a.m * (2 : ℚ) ^ a.e

/-- scaling a fraction by 2^k within ℕ, as `rne` does -/
theorem scaled_div (p q : ℕ) (k : ℤ) :
    (((if 0 ≤ k then p * 2 ^ k.toNat else p : ℕ) : ℚ)) / ((if 0 ≤ k then q else q * 2 ^ (-k).toNat : ℕ) : ℚ)
      = p / q * 2 ^ k := by
  split_ifs with h
  · rw [Nat.cast_mul, two_zpow_toNat h]; ring
  · rw [Nat.cast_mul, two_zpow_toNat (by omega), zpow_neg]; field_simp

/-- `rne` scales p/q by a power of two to at least 2^52, rounds there to an integer, and scales back -/
theorem rne_eq (p q : ℕ) (s : ℤ) (hp : 0 < p) (hq : 0 < q) :
    ∃ (k : ℤ) (num den : ℕ), rne p q s = ⟨roundNE num den, s - k⟩ ∧ 0 < den ∧
      (num : ℚ) / den = p / q * 2 ^ k ∧ (2 : ℚ) ^ (52 : ℤ) ≤ p / q * 2 ^ k := by
  obtain ⟨-, hlo, -⟩ := bracket p q hp hq
  set K := q.log2 + 1
  set n := p * 2 ^ K / q
  refine ⟨52 - ((n.log2 : ℤ) - K), _, _, by simp only [rne, hp.ne', if_false]; rfl, ?_, scaled_div _ _ _, ?_⟩
  · split_ifs <;> positivity
  · have e : (52 : ℤ) - ((n.log2 : ℤ) - K) = K + (52 - n.log2) := by ring
    rw [e, zpow_add₀ two_ne_zero, zpow_natCast, ← mul_assoc]
    calc (2 : ℚ) ^ (52 : ℤ) = 2 ^ n.log2 * 2 ^ (52 - (n.log2 : ℤ)) := by
          rw [← zpow_natCast, ← zpow_add₀ two_ne_zero]; congr 1; ring
      _ ≤ _ := mul_le_mul_of_nonneg_right hlo (by positivity)

theorem rne_rel_err (p q : Nat) (s : Int) (hp : 0 < p) (hq : 0 < q) :
    |(rne p q s).val - (p : ℚ) / q * 2 ^ s| ≤ (p : ℚ) / q * 2 ^ s * 2 ^ (-53 : Int) := by
  obtain ⟨k, num, den, hr, hden, hval, hlo⟩ := rne_eq p q s hp hq
  have herr := roundNE_err num den hden
  rw [hval] at herr
  -- both sides carry the factor 2^(s-k); without it: |R − Y| ≤ 1/2 = 2^52·2⁻⁵³ ≤ Y·2⁻⁵³
  have hpos : (0 : ℚ) < 2 ^ (s - k) := by positivity
  have hsplit : (p : ℚ) / q * 2 ^ s = p / q * 2 ^ k * 2 ^ (s - k) := by
    rw [mul_assoc, ← zpow_add₀ two_ne_zero, add_sub_cancel]
  rw [hr, F.val, hsplit, ← sub_mul, abs_mul, abs_of_pos hpos, mul_right_comm]
  refine mul_le_mul_of_nonneg_right (herr.trans ?_) hpos.le
  calc (1 / 2 : ℚ) = 2 ^ (52 : ℤ) * 2 ^ (-53 : ℤ) := by rw [← zpow_add₀ two_ne_zero]; norm_num
    _ ≤ _ := mul_le_mul_of_nonneg_right hlo (by positivity)

/-- `c < 2^53`, value `c·2^t`: fits 53 bits, so `rne` does not change it -/
theorem rne_exact {p q : ℕ} {s : ℤ} (hp : 0 < p) (hq : 0 < q) {c : ℕ} {t : ℤ} (hc : c < 2 ^ 53)
    (hx : (p : ℚ) / q * 2 ^ s = c * 2 ^ t) : (rne p q s).val = c * 2 ^ t := by
  obtain ⟨k, num, den, hr, hden, hval, hlo⟩ := rne_eq p q s hp hq
  have hdq : (den : ℚ) ≠ 0 := by exact_mod_cast hden.ne'
  -- p/q·2^k = c·2^u with u = t − s + k;  2^52 ≤ c·2^u and c < 2^53 force u ≥ 0, so it is the integer c·2^u
  have hY : (p : ℚ) / q * 2 ^ k = c * 2 ^ (t - s + k) := by
    rw [show (2 : ℚ) ^ k = 2 ^ s * 2 ^ (k - s) by rw [← zpow_add₀ two_ne_zero, add_sub_cancel], ← mul_assoc, hx,
      mul_assoc, ← zpow_add₀ two_ne_zero, add_sub_assoc', sub_add_eq_add_sub]
  rw [hY] at hval hlo
  have hu : 0 ≤ t - s + k := by
    have : (2 : ℚ) ^ (52 : ℤ) < 2 ^ (53 + (t - s + k)) :=
      calc _ ≤ (c : ℚ) * 2 ^ (t - s + k) := hlo
        _ < 2 ^ (53 : ℤ) * 2 ^ (t - s + k) := mul_lt_mul_of_pos_right (by exact_mod_cast hc) (by positivity)
        _ = _ := (zpow_add₀ two_ne_zero _ _).symm
    have := (zpow_lt_zpow_iff_right₀ one_lt_two).mp this
    omega
  rw [← two_zpow_toNat hu, ← Nat.cast_mul, div_eq_iff hdq] at hval
  have hnum : num = c * 2 ^ (t - s + k).toNat * den := by exact_mod_cast hval
  rw [hr, F.val, hnum, roundNE_mul_self _ hden, Nat.cast_mul, two_zpow_toNat hu, mul_assoc, ← zpow_add₀ two_ne_zero]
  congr 2; ring

end Crd
