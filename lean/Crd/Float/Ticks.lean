import Crd.Float.Ops

/-!
# A soft float within K roundings of N/D is rounded by `math.Round` to the nearest integer of N/D when 4·K·N < 2^52

(either neighbour at an exact half).  `ticksF` and `tempoMicros` are the two instances; for the tempo an exact half
is computed exactly, so there is no second neighbour.
-/
namespace Crd

theorem roundHalfAway_spec (a : F) : ((a.roundHalfAway : ℕ) : ℚ) ≤ a.val + 1 / 2 ∧ a.val + 1 / 2 < (a.roundHalfAway : ℚ) + 1 := by
  unfold F.roundHalfAway F.val
  split_ifs with h
  · rw [Nat.cast_mul, two_zpow_toNat h]
    constructor <;> linarith
  · -- m·2^e + 1/2 = (2m + d)/(2d) with d = 2^(-e), and ℕ-division is the floor
    have hd : (0 : ℚ) < (2 ^ (-a.e).toNat : ℕ) := by positivity
    have e : (a.m : ℚ) * 2 ^ a.e + 1 / 2 = ((2 * a.m + 2 ^ (-a.e).toNat : ℕ) : ℚ) / ((2 * 2 ^ (-a.e).toNat : ℕ) : ℚ) := by
      rw [show (2 : ℚ) ^ a.e = ((2 ^ (-a.e).toNat : ℕ) : ℚ)⁻¹ by rw [two_zpow_toNat (by omega), zpow_neg, inv_inv]]
      push_cast; field_simp
    rw [e]
    exact natDiv_floor _ (by positivity)

theorem floor_near {r a b : ℕ} {y : ℚ} (hb : 0 < b) (hr : (r : ℚ) ≤ y ∧ y < r + 1) (herr : |y - a / b| < 1 / b) :
    r = a / b ∨ (a % b = 0 ∧ r + 1 = a / b) := by
  have hbq : (0 : ℚ) < b := by exact_mod_cast hb
  -- times b:  |y·b − a| < 1  and  r·b ≤ y·b < (r+1)·b,  so  r·b ≤ a ≤ (r+1)·b  in ℕ
  rw [sub_div' hbq.ne', abs_div, abs_of_pos hbq, div_lt_div_iff_of_pos_right hbq, abs_lt] at herr
  have h1 : (r * b : ℚ) < a + 1 := by linarith only [mul_le_mul_of_nonneg_right hr.1 hbq.le, herr.2]
  have h2 : (a : ℚ) < (r + 1) * b + 1 := by linarith only [mul_lt_mul_of_pos_right hr.2 hbq, herr.1]
  have h1 : r * b < a + 1 := by exact_mod_cast h1
  have h2 : a < (r + 1) * b + 1 := by exact_mod_cast h2
  rcases (by omega : a = (r + 1) * b ∨ a < (r + 1) * b) with h | h
  · right; rw [h, Nat.mul_mod_left, Nat.mul_div_cancel _ hb]; exact ⟨rfl, rfl⟩
  · left; exact (Nat.div_eq_of_lt_le (by omega) h).symm

theorem add_half (N : ℕ) {D : ℕ} (hD : 0 < D) :
    (N : ℚ) / D + 1 / 2 = ((2 * N + D : ℕ) : ℚ) / ((2 * D : ℕ) : ℚ) := by
  have : (D : ℚ) ≠ 0 := by exact_mod_cast hD.ne'
  push_cast; field_simp

theorem nearest_of_close {a : F} {K N D : ℕ} (hD : 0 < D) (h : Close K a.val (N / D)) (hsafe : 4 * K * N < 2 ^ 52) :
    a.roundHalfAway = (2 * N + D) / (2 * D) ∨
      ((2 * N + D) % (2 * D) = 0 ∧ a.roundHalfAway + 1 = (2 * N + D) / (2 * D)) := by
  refine floor_near (by omega) (roundHalfAway_spec a) ?_
  rw [← add_half N hD, add_sub_add_right_eq_sub, Nat.cast_mul, Nat.cast_ofNat]
  exact h.err_lt hD hsafe

theorem nearest_of_exact {a : F} {N D : ℕ} (hD : 0 < D) (h : a.val = N / D) :
    a.roundHalfAway = (2 * N + D) / (2 * D) := by
  obtain ⟨r1, r2⟩ := roundHalfAway_spec a
  obtain ⟨q1, q2⟩ := natDiv_floor (2 * N + D) (by omega : 0 < 2 * D)
  rw [h, add_half N hD] at r1 r2
  have h1 : a.roundHalfAway < (2 * N + D) / (2 * D) + 1 := by exact_mod_cast r1.trans_lt q2
  have h2 : (2 * N + D) / (2 * D) < a.roundHalfAway + 1 := by exact_mod_cast q1.trans_lt r2
  omega

/-- T·Σ nᵢ/dᵢ over the common denominator D -/
def numOver (T D : ℕ) (fr : List (ℕ × ℕ)) : ℕ := T * (fr.map fun p => p.1 * (D / p.2)).sum

theorem numOver_eq (T D : ℕ) (hD : 0 < D) (fr : List (ℕ × ℕ)) (hdiv : ∀ p ∈ fr, p.2 ∣ D) :
    ((numOver T D fr : ℕ) : ℚ) / D = (T : ℚ) * sumQ fr := by
  have hDq : (D : ℚ) ≠ 0 := by exact_mod_cast hD.ne'
  have key : (((fr.map fun p => p.1 * (D / p.2)).sum : ℕ) : ℚ) = (D : ℚ) * sumQ fr := by
    induction fr with
    | nil => simp [sumQ]
    | cons p l ih =>
      have ih := ih fun q hq => hdiv q (by simp [hq])
      obtain ⟨c, rfl⟩ := hdiv p (by simp)
      have hp : 0 < p.2 := Nat.pos_of_dvd_of_pos (Nat.dvd_mul_right _ _) hD
      have hpq : (p.2 : ℚ) ≠ 0 := by exact_mod_cast hp.ne'
      rw [List.map_cons, List.sum_cons, Nat.cast_add, ih, sumQ_cons, Nat.mul_div_cancel_left _ hp]
      push_cast; field_simp
  rw [numOver, Nat.cast_mul, key]; field_simp

/-- for any common denominator D of the written fractions, with N/D = T·v exactly: if
4·(n+4)·N < 2^52 then Go's `uint32(math.Round(float64(T) * Σ float64(nᵢ)/float64(dᵢ)))` is the nearest integer of
T·v — ⌊T·v + ½⌋, or ⌊T·v + ½⌋ − 1 only when T·v is exactly halfway -/
theorem ticks_nearest (T : ℕ) (hT : 0 < T) (fr : List (ℕ × ℕ)) (hne : fr ≠ []) (D : ℕ) (hD : 0 < D)
    (hv : ∀ p ∈ fr, 0 < p.1 ∧ 0 < p.2 ∧ p.2 ∣ D)
    (hsafe : 4 * (4 + fr.length) * numOver T D fr < 2 ^ 52) :
    let N := numOver T D fr
    ticksF T fr = (2 * N + D) / (2 * D) ∨ ((2 * N + D) % (2 * D) = 0 ∧ ticksF T fr + 1 = (2 * N + D) / (2 * D)) := by
  -- n + 2 roundings in the sum, one for `float64(T)`, one for the product
  have hc := mul_close (ofNat_close hT) (sumFloat_close hne fun p hp => ⟨(hv p hp).1, (hv p hp).2.1⟩)
  rw [← numOver_eq T D hD fr fun p hp => (hv p hp).2.2] at hc
  exact nearest_of_close hD (hc.mono (by omega)) hsafe

/-! non-vacuity: the hypotheses are met by ordinary durations, and the conclusion is informative -/
example : Crd.ticksF 960 [(1, 9)] = 107 := by
  have h := Crd.ticks_nearest 960 (by norm_num) [(1, 9)] (by simp) 9 (by norm_num)
    (by intro p hp; simp at hp; subst hp; exact ⟨by norm_num, by norm_num, dvd_refl _⟩) (by decide)
  simp only [Crd.numOver] at h
  norm_num at h
  exact h

theorem tempoMicros_eq (bpm : ℕ) : tempoMicros bpm = (ratFloat 60000000 bpm).roundHalfAway := by
  unfold tempoMicros ratFloat; split_ifs <;> rfl

/-- a quotient of two naturals, computed as `float64(N) / float64(D)` and rounded by `math.Round`, is N/D rounded to the
nearest integer, halves up, for every numerator below 2^52/12: an exact half q − 1/2 = (2q − 1)/2 fits 53 bits, so
there the float division is exact and `math.Round` rounds up -/
theorem ratFloat_round {N D : ℕ} (hN : 0 < N) (hD : 0 < D) (hsafe : 4 * 3 * N < 2 ^ 52) :
    (ratFloat N D).roundHalfAway = (2 * N + D) / (2 * D) := by
  rcases nearest_of_close hD (ratFloat_close hN hD) hsafe with h | ⟨htie, -⟩
  · exact h
  obtain ⟨q, hdiv⟩ := Nat.dvd_of_mod_eq_zero htie
  have hq : 0 < q := Nat.pos_of_ne_zero (by rintro rfl; omega)
  have hD2 : 2 * D ≤ 2 * N + D := hdiv ▸ Nat.le_mul_of_pos_right _ hq
  have hq2 : 2 * q ≤ 2 * N + D := hdiv ▸ Nat.mul_le_mul_right q (by omega : 2 ≤ 2 * D)
  have hDq : (D : ℚ) ≠ 0 := by exact_mod_cast hD.ne'
  refine nearest_of_exact hD (ratFloat_exact (c := 2 * q - 1) (t := -1) hN hD (by omega) (by omega) (by omega) ?_)
  have : 2 * N + (D : ℚ) = 2 * D * q := by exact_mod_cast hdiv
  rw [Nat.cast_sub (by omega), zpow_neg_one, div_eq_iff hDq]
  push_cast; linarith only [this]

/-- **for every tempo** the value is 60,000,000/bpm rounded to the nearest integer, halves up -/
theorem tempo_exact (bpm : ℕ) : tempoMicros bpm = (2 * 60000000 + bpm) / (2 * bpm) := by
  rcases Nat.eq_zero_or_pos bpm with rfl | hb
  · rfl
  · rw [tempoMicros_eq]
    exact ratFloat_round (by norm_num) hb (by norm_num)

end Crd
