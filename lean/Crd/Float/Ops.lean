import Crd.Float.Rne
import Crd.Float.Close

/-!
# Each soft-float operation crd performs is one rounding of the exact result; duration sums

Quotient and product: operands within j and k roundings of A and B give a result within j + k + 1 roundings of A ∘ B
(`div_close`, `mul_close`); a sum wants both operands at one index k and gives k + 1 (`add_close`); a conversion from ℕ
is one rounding (`ofNat_close`), a fraction three (`ratFloat_close`), a sum of n fractions n + 2 (`sumFloat_close`).
Positivity travels inside `Close`.
-/
namespace Crd

theorem F.val_pos {a : F} : 0 < a.val ↔ 0 < a.m := by
  rw [F.val, mul_pos_iff_of_pos_right (by positivity), Nat.cast_pos]

theorem val_pos_of_m_pos (a : F) (h : 0 < a.m) : 0 < a.val := F.val_pos.mpr h

theorem Close.m_pos {a : F} {k : ℕ} {X : ℚ} (h : Close k a.val X) : 0 < a.m := F.val_pos.mp h.1

theorem rne_close (p q : ℕ) (s : Int) (hp : 0 < p) (hq : 0 < q) : Close 1 (rne p q s).val ((p : ℚ) / q * 2 ^ s) := by
  have h := rne_rel_err p q s hp hq
  have hx : (0 : ℚ) < (p : ℚ) / q * 2 ^ s := by
    have : (0 : ℚ) < p := by exact_mod_cast hp
    have : (0 : ℚ) < q := by exact_mod_cast hq
    positivity
  generalize (p : ℚ) / q * 2 ^ s = x at h hx
  generalize (rne p q s).val = r at h
  rw [show (2 : ℚ) ^ (-53 : ℤ) = w / 2 by rw [w_eq]; ring, abs_le] at h
  obtain ⟨hlo, hhi⟩ := h
  -- with e = x·w:  x − e/2 ≤ r ≤ x + e/2  and  e·w ≤ e ≤ x
  have he : 0 < x * w := mul_pos hx w_pos
  have hex : x * w ≤ x := mul_le_of_le_one_right hx.le w_le_one
  have hew : x * w * w ≤ x * w := mul_le_of_le_one_right he.le w_le_one
  have hrw : (x - x * w / 2) * w ≤ r * w := mul_le_mul_of_nonneg_right (by linarith only [hlo]) w_pos.le
  refine ⟨by linarith only [hlo, hex, hx], hx, ?_, ?_⟩ <;> rw [pow_one]
  · linarith only [hhi, he]
  · linarith only [hlo, hrw, hew]

theorem ofNat_close {n : ℕ} (hn : 0 < n) : Close 1 (F.ofNat n).val n := by
  have h := rne_close n 1 0 hn one_pos
  rwa [Nat.cast_one, div_one, zpow_zero, mul_one] at h

theorem div_close {a b : F} {j k : ℕ} {A B : ℚ} (ha : Close j a.val A) (hb : Close k b.val B) :
    Close (1 + (j + k)) (a.div b).val (A / B) := by
  have h := rne_close a.m b.m (a.e - b.e) ha.m_pos hb.m_pos
  rw [zpow_sub₀ two_ne_zero, div_mul_div_comm] at h
  exact h.trans (ha.div hb)

theorem mul_close {a b : F} {j k : ℕ} {A B : ℚ} (ha : Close j a.val A) (hb : Close k b.val B) :
    Close (1 + (j + k)) (a.mul b).val (A * B) := by
  have h := rne_close (a.m * b.m) 1 (a.e + b.e) (Nat.mul_pos ha.m_pos hb.m_pos) one_pos
  rw [zpow_add₀ two_ne_zero, Nat.cast_one, div_one, Nat.cast_mul, mul_mul_mul_comm] at h
  exact h.trans (ha.mul hb)

theorem val_align {m : ℕ} {e em : ℤ} (h : em ≤ e) : ((m * 2 ^ (e - em).toNat : ℕ) : ℚ) * 2 ^ em = m * 2 ^ e := by
  rw [Nat.cast_mul, two_zpow_toNat (by omega), mul_assoc, ← zpow_add₀ two_ne_zero, sub_add_cancel]

theorem add_close {a b : F} {k : ℕ} {A B : ℚ} (ha : Close k a.val A) (hb : Close k b.val B) :
    Close (1 + k) (a.add b).val (A + B) := by
  have hp : 0 < a.m * 2 ^ (a.e - min a.e b.e).toNat + b.m * 2 ^ (b.e - min a.e b.e).toNat :=
    Nat.add_pos_left (Nat.mul_pos ha.m_pos (Nat.two_pow_pos _)) _
  have h := rne_close _ 1 (min a.e b.e) hp one_pos
  rw [Nat.cast_one, div_one, Nat.cast_add, add_mul, val_align (min_le_left _ _), val_align (min_le_right _ _)] at h
  rw [F.add, if_neg ha.m_pos.ne', if_neg hb.m_pos.ne']
  exact h.trans (ha.add hb)

theorem ratFloat_close {n d : ℕ} (hn : 0 < n) (hd : 0 < d) : Close 3 (ratFloat n d).val ((n : ℚ) / d) := by
  rw [ratFloat, if_neg hd.ne']
  exact (div_close (ofNat_close hn) (ofNat_close hd)).mono (by norm_num)

theorem ofNat_exact {n : ℕ} (hn : 0 < n) (h : n < 2 ^ 53) : (F.ofNat n).val = n := by
  simpa [F.ofNat] using rne_exact (s := 0) (t := 0) hn one_pos h (by simp)

theorem ratFloat_exact {n d c : ℕ} {t : ℤ} (hn : 0 < n) (hd : 0 < d) (hn53 : n < 2 ^ 53) (hd53 : d < 2 ^ 53)
    (hc : c < 2 ^ 53) (h : (n : ℚ) / d = c * 2 ^ t) : (ratFloat n d).val = n / d := by
  rw [ratFloat, if_neg hd.ne', F.div, h]
  refine rne_exact (ofNat_close hn).m_pos (ofNat_close hd).m_pos hc ?_
  rw [zpow_sub₀ two_ne_zero, div_mul_div_comm, ← h]
  exact congrArg₂ (· / ·) (ofNat_exact hn hn53) (ofNat_exact hd hd53)

def sumQ (fr : List (ℕ × ℕ)) : ℚ := (fr.map fun p => (p.1 : ℚ) / p.2).sum

def ValidFr (fr : List (ℕ × ℕ)) : Prop := ∀ p ∈ fr, 0 < p.1 ∧ 0 < p.2

theorem sumQ_cons (p : ℕ × ℕ) (l : List (ℕ × ℕ)) : sumQ (p :: l) = (p.1 : ℚ) / p.2 + sumQ l := by simp [sumQ]

/-- `3 ≤ k`: an addend is itself three roundings off, and `Close.add` wants both at one index -/
theorem foldl_close {l : List (ℕ × ℕ)} (hv : ValidFr l) {acc : F} {A : ℚ} {k : ℕ} (hk : 3 ≤ k) (hc : Close k acc.val A) :
    Close (l.length + k) (l.foldl (fun acc nd => acc.add (ratFloat nd.1 nd.2)) acc).val (A + sumQ l) := by
  induction l generalizing acc A k with
  | nil => simpa [sumQ] using hc
  | cons p l ih =>
    obtain ⟨hn, hd⟩ := hv p (by simp)
    have := ih (fun q hq => hv q (by simp [hq])) (by omega) (add_close hc ((ratFloat_close hn hd).mono hk))
    rw [sumQ_cons, ← add_assoc]
    exact this.mono (by simp +arith)

theorem sumFloat_close {fr : List (ℕ × ℕ)} (hne : fr ≠ []) (hv : ValidFr fr) :
    Close (fr.length + 2) (sumFloat fr).val (sumQ fr) := by
  obtain ⟨p, l, rfl⟩ := List.exists_cons_of_ne_nil hne
  obtain ⟨hn, hd⟩ := hv p (by simp)
  -- the first addition, to zero, is exact
  have h0 : sumFloat (p :: l) = l.foldl (fun acc nd => acc.add (ratFloat nd.1 nd.2)) (ratFloat p.1 p.2) := by
    simp [sumFloat, F.add]
  rw [h0, sumQ_cons]
  exact (foldl_close (fun q hq => hv q (by simp [hq])) le_rfl (ratFloat_close hn hd)).mono (by simp)

end Crd
