import Mathlib.Tactic.Linarith
import Mathlib.Tactic.Ring
import Mathlib.Tactic.Positivity

/-!
# Accumulated relative error: a symmetric closeness relation on ℚ, independent of the float model

`Close k x y`: both positive and each within a factor `(1 + w)^k` of the other, `w = 2⁻⁵²`.  One rounding
is `Close 1` (`rne_close`); products, quotients and sums of positives add the exponents; `Close.err_lt` turns the
index back into an absolute error.
-/
namespace Crd

/-- twice the unit round-off -/
def w : ℚ := 2 ^ (-52 : Int)

theorem w_pos : 0 < w := by unfold w; positivity

theorem w_le_one : w ≤ 1 := zpow_le_one_of_nonpos₀ one_le_two (by norm_num)

theorem w_eq : w = 2 * (2 : ℚ) ^ (-53 : Int) := by
  unfold w
  rw [show (-52 : Int) = 1 + (-53) by norm_num, zpow_add₀ (by norm_num : (2 : ℚ) ≠ 0)]; norm_num

theorem w_mul : w * 2 ^ (52 : ℕ) = 1 := by
  rw [w, ← zpow_natCast, ← zpow_add₀ two_ne_zero]; norm_num

def Close (k : ℕ) (x y : ℚ) : Prop := 0 < x ∧ 0 < y ∧ x ≤ y * (1 + w) ^ k ∧ y ≤ x * (1 + w) ^ k

theorem one_le_pow_w (k : ℕ) : (1 : ℚ) ≤ (1 + w) ^ k := one_le_pow₀ (by linarith [w_pos])

theorem pow_w_pos (k : ℕ) : (0 : ℚ) < (1 + w) ^ k := lt_of_lt_of_le one_pos (one_le_pow_w k)

theorem pow_w_mono {j k : ℕ} (h : j ≤ k) : (1 + w) ^ j ≤ (1 + w) ^ k :=
  pow_le_pow_right₀ (by linarith [w_pos]) h

theorem Close.refl {x : ℚ} (hx : 0 < x) : Close 0 x x := ⟨hx, hx, by simp, by simp⟩

theorem Close.symm {k : ℕ} {x y : ℚ} (h : Close k x y) : Close k y x := ⟨h.2.1, h.1, h.2.2.2, h.2.2.1⟩

theorem Close.mono {j k : ℕ} {x y : ℚ} (h : Close j x y) (hjk : j ≤ k) : Close k x y := by
  obtain ⟨hx, hy, h1, h2⟩ := h
  refine ⟨hx, hy, h1.trans ?_, h2.trans ?_⟩
  · exact mul_le_mul_of_nonneg_left (pow_w_mono hjk) hy.le
  · exact mul_le_mul_of_nonneg_left (pow_w_mono hjk) hx.le

theorem Close.trans {j k : ℕ} {x y z : ℚ} (h1 : Close j x y) (h2 : Close k y z) : Close (j + k) x z := by
  obtain ⟨hx, hy, a1, a2⟩ := h1
  obtain ⟨_, hz, b1, b2⟩ := h2
  refine ⟨hx, hz, ?_, ?_⟩
  · calc x ≤ y * (1 + w) ^ j := a1
      _ ≤ z * (1 + w) ^ k * (1 + w) ^ j := mul_le_mul_of_nonneg_right b1 (pow_w_pos j).le
      _ = z * (1 + w) ^ (j + k) := by rw [pow_add]; ring
  · calc z ≤ y * (1 + w) ^ k := b2
      _ ≤ x * (1 + w) ^ j * (1 + w) ^ k := mul_le_mul_of_nonneg_right a2 (pow_w_pos k).le
      _ = x * (1 + w) ^ (j + k) := by rw [pow_add]; ring

theorem Close.mul {j k : ℕ} {a A b B : ℚ} (h1 : Close j a A) (h2 : Close k b B) : Close (j + k) (a * b) (A * B) := by
  obtain ⟨ha, hA, a1, a2⟩ := h1
  obtain ⟨hb, hB, b1, b2⟩ := h2
  refine ⟨mul_pos ha hb, mul_pos hA hB, ?_, ?_⟩
  · calc a * b ≤ (A * (1 + w) ^ j) * (B * (1 + w) ^ k) := mul_le_mul a1 b1 hb.le (mul_pos hA (pow_w_pos j)).le
      _ = A * B * (1 + w) ^ (j + k) := by rw [pow_add]; ring
  · calc A * B ≤ (a * (1 + w) ^ j) * (b * (1 + w) ^ k) := mul_le_mul a2 b2 hB.le (mul_pos ha (pow_w_pos j)).le
      _ = a * b * (1 + w) ^ (j + k) := by rw [pow_add]; ring

theorem Close.inv {k : ℕ} {b B : ℚ} (h : Close k b B) : Close k b⁻¹ B⁻¹ := by
  obtain ⟨hb, hB, b1, b2⟩ := h
  refine ⟨inv_pos.mpr hb, inv_pos.mpr hB, ?_, ?_⟩
  · rwa [← div_eq_inv_mul, le_div_iff₀ hB, inv_mul_le_iff₀ hb]
  · rwa [← div_eq_inv_mul, le_div_iff₀ hb, inv_mul_le_iff₀ hB]

theorem Close.div {j k : ℕ} {a A b B : ℚ} (h1 : Close j a A) (h2 : Close k b B) : Close (j + k) (a / b) (A / B) := by
  rw [div_eq_mul_inv, div_eq_mul_inv]; exact h1.mul h2.inv

theorem Close.add {k : ℕ} {a A b B : ℚ} (h1 : Close k a A) (h2 : Close k b B) : Close k (a + b) (A + B) := by
  obtain ⟨ha, hA, a1, a2⟩ := h1
  obtain ⟨hb, hB, b1, b2⟩ := h2
  refine ⟨add_pos ha hb, add_pos hA hB, ?_, ?_⟩
  · rw [add_mul]; exact add_le_add a1 b1
  · rw [add_mul]; exact add_le_add a2 b2

theorem pow_w_le (K : ℕ) (h : 2 * (K : ℚ) * w ≤ 1) : (1 + w) ^ K ≤ 1 + 2 * K * w := by
  induction K with
  | zero => simp
  | succ K ih =>
    push_cast at h ⊢
    have h' : 2 * (K : ℚ) * w ≤ 1 := by linarith only [h, w_pos]
    -- (1 + 2Kw)(1 + w) = 1 + 2(K+1)w − w + 2Kw·w  and  2Kw·w ≤ w
    have h1 := mul_le_mul_of_nonneg_right (ih h') (by linarith only [w_pos] : 0 ≤ 1 + w)
    have h2 := mul_le_mul_of_nonneg_right h' w_pos.le
    rw [pow_succ]
    linarith only [h1, h2]

theorem close_abs {K : ℕ} {t X : ℚ} (h : Close K t X) (hK : 2 * (K : ℚ) * w ≤ 1) : |t - X| ≤ X * (2 * K * w) := by
  obtain ⟨ht, hX, h1, h2⟩ := h
  have ha0 : 0 ≤ (1 + w) ^ K - 1 := by linarith only [one_le_pow_w K]
  have hb : X * ((1 + w) ^ K - 1) ≤ X * (2 * K * w) :=
    mul_le_mul_of_nonneg_left (by linarith only [pow_w_le K hK]) hX.le
  -- |t − X| ≤ min t X · ((1+w)^K − 1)
  rcases le_total t X with htX | htX
  · rw [abs_sub_comm, abs_of_nonneg (sub_nonneg.mpr htX)]
    linarith only [h2, mul_le_mul_of_nonneg_right htX ha0, hb]
  · rw [abs_of_nonneg (sub_nonneg.mpr htX)]
    linarith only [h1, hb]

theorem Close.err_lt {K N D : ℕ} {t : ℚ} (hD : 0 < D) (h : Close K t (N / D)) (hsafe : 4 * K * N < 2 ^ 52) :
    |t - N / D| < 1 / (2 * D) := by
  have hDq : (0 : ℚ) < D := by exact_mod_cast hD
  have hN : (1 : ℚ) ≤ N := by
    have : (0 : ℚ) < N := by have := h.2.1; rwa [div_pos_iff_of_pos_right hDq] at this
    exact_mod_cast this
  have hKw : (0 : ℚ) ≤ K * w := mul_nonneg (by positivity) w_pos.le
  -- 4·K·N·w < 2^52·w = 1
  have h4 : 4 * (K : ℚ) * N * w < 1 := by
    have : (4 * K * N : ℚ) < 2 ^ (52 : ℕ) := by exact_mod_cast hsafe
    have := mul_lt_mul_of_pos_right this w_pos
    rwa [mul_comm _ w, mul_comm _ w, w_mul, mul_comm] at this
  have h2K : 2 * (K : ℚ) * w ≤ 1 := by linarith only [h4, mul_le_mul_of_nonneg_left hN hKw]
  refine (close_abs h h2K).trans_lt ?_
  rw [div_mul_eq_mul_div, div_lt_div_iff₀ hDq (by positivity)]
  nlinarith only [h4, hDq]

end Crd
