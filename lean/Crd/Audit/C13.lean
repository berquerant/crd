import Crd.Props.C13
#print axioms Crd.Props.C13.supported_perm_required
#print axioms Crd.Props.C13.supports_required
#print axioms Crd.Props.C13.required_of_newScale
#print axioms Crd.Props.C13.unsupported_rejected
#print axioms Crd.Props.C13.lift
#print axioms Crd.Props.C13.letters_once_from_tonic
#print axioms Crd.Props.C13.scale_head
#print axioms Crd.Props.C13.step_pattern
#print axioms Crd.Props.C13.signature_conventional
#print axioms Crd.Props.C13.altered_are_first_n
#print axioms Crd.Props.C13.relative_pairs_share
