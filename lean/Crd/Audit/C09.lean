import Crd.Props.C09
import Crd.Props.IO
#print axioms Crd.Props.C09.text_conv_never_crashes
#print axioms Crd.Props.C09.text_parse_never_crashes
#print axioms Crd.Props.C09.write_never_crashes
#print axioms Crd.Props.C09.write_conv_never_crashes
#print axioms Crd.Props.C09.lexer_loops_guarded
#print axioms Crd.Props.C09.zero_duration_refused_yaml
#print axioms Crd.Props.C09.zero_duration_refused_text
#print axioms Crd.Props.C09.zero_meter_flag_refused
#print axioms Crd.Props.C09.bad_value_refuses_instance
#print axioms Crd.Props.C09.tempo_zero_refused
#print axioms Crd.Props.C09.unknown_dynamic_refused
#print axioms Crd.Props.C09.unknown_chord_refused
#print axioms Crd.Props.C09.unknown_modifier_refused
#print axioms Crd.Props.C09.specLoop_sane
#print axioms Crd.Props.C09.played_piece_is_sane
#print axioms Crd.Props.C09.empty_piece_refused
#print axioms Crd.Props.C09.key_without_scale_refused
#print axioms Crd.Props.C09.mixed_notation_refused
#print axioms Crd.Props.C09.written_piece_was_valid
#print axioms Crd.Props.C09.panic_sites_accounted
#print axioms Crd.Props.C09.signature_keys_parse
#print axioms Crd.Props.IO.io_sites_accounted
