import Crd.Props.C08
import Crd.Props.C08Bytes
#print axioms Crd.Props.C08.track_count
#print axioms Crd.Props.C08.one_eot_and_last
#print axioms Crd.Props.C08.meta_routed_to_first
#print axioms Crd.Props.C08.timing_meta_only_in_first_track
#print axioms Crd.Props.C08.share_of_fixed
#print axioms Crd.Props.C08.notes_paired_per_track
#print axioms Crd.Props.C08.header_bytes
#print axioms Crd.Props.C08.ticks_per_quarter
#print axioms Crd.Props.C08.delta_times_fit
#print axioms Crd.Props.C08.too_long_refused
#print axioms Crd.Props.C08.written_file_parses
#print axioms Crd.Props.C08.write_output_parses
#print axioms Crd.Props.C08.prepare_keeps_dyns
#print axioms Crd.Props.C08.written_tracks_balanced
