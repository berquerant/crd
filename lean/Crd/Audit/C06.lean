import Crd.Props.C06
#print axioms Crd.Props.C06.selector_in_range
#print axioms Crd.Props.C06.prepare_independent_of_tracks
#print axioms Crd.Props.C06.pieceLog_no_close
#print axioms Crd.Props.C06.nonEOT_of
#print axioms Crd.Props.C06.refTimeline_no_close
#print axioms Crd.Props.C06.share_no_close
#print axioms Crd.TrackRun.nonEOT_eq
#print axioms Crd.TrackRun.ends
#print axioms Crd.TrackRun.events
#print axioms Crd.Props.C06.every_track_ends_at_total
#print axioms Crd.Props.C06.merged_perm
#print axioms Crd.Props.C06.merged_independent_of_tracks
