import Crd.Props.C07
import Crd.Props.C07Float
#print axioms Crd.Props.C07.defaults
#print axioms Crd.Props.C07.first_instance_states_all
#print axioms Crd.Props.C07.later_instance_exactly_its_settings
#print axioms Crd.Props.C07.text_calls
#print axioms Crd.Props.C07.settings_at_instance_start
#print axioms Crd.Props.C07.flags_override_first_instance
#print axioms Crd.Props.C07.meter_payload
#print axioms Crd.Props.C07.keysig_payload
#print axioms Crd.Props.C07.text_payload
#print axioms Crd.Props.C07.tempo_payload_shape
#print axioms Crd.Props.C07.dynamics_monotone
#print axioms Crd.Props.C07.velocity_persists
#print axioms Crd.Props.C07.tempo_value
#print axioms Crd.Props.C07.tempo_value_partial
#print axioms Crd.Props.C07.tempo_fits
#print axioms Crd.Props.C07.tempo_event
