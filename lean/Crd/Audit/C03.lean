import Crd.Props.C03
#print axioms Crd.Props.C03.getDegree_sweep
#print axioms Crd.Props.C03.order_irrelevant
#print axioms Crd.Props.C03.getDegree_spec
#print axioms Crd.Props.C03.getDegree_spec_ok
#print axioms Crd.Props.C03.getDegree_no_panic
#print axioms Crd.Props.C03.rejected_count
#print axioms Crd.Props.C03.letter_ofString_cases
#print axioms Crd.Props.C03.newScaleNote_mem
#print axioms Crd.Props.C03.scale_tonic
#print axioms Crd.Props.C03.conv_sound
#print axioms Crd.Props.C03.scale_notes_accepted
