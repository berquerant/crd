import Crd.Props.C16
#print axioms Crd.Props.C16.accepted_is_built
#print axioms Crd.Props.C16.builtin_loads
#print axioms Crd.Props.C16.builtin_eq
#print axioms Crd.Props.C16.builtin_intervals
#print axioms Crd.Props.C16.symbols_are_the_builtins
#print axioms Crd.Props.C16.builtin_finds
#print axioms Crd.Props.C16.name_display_interchangeable
#print axioms Crd.Props.C16.embedded_is_generated
#print axioms Crd.Props.C16.mem_generateAttributes
#print axioms Crd.Props.C16.prefix_is_english
#print axioms Crd.Props.C16.attr_names_mean
#print axioms Crd.Props.C16.builtin_attrs_parse
#print axioms Crd.Props.C16.accept_iff
#print axioms Crd.Props.C16.unnamed_rejected
#print axioms Crd.Props.C16.rejected_of_not_wf
#print axioms Crd.Props.C16.dangling_rejected
#print axioms Crd.Props.C16.cyclic_rejected
#print axioms Crd.Props.C16.resolve_inherits
#print axioms Crd.Props.C16.last_definition_wins
#print axioms Crd.Props.C16.find?_claim_none
#print axioms Crd.Props.C16.user_takes_over
#print axioms Crd.Props.C16.builtin_name_untouched
