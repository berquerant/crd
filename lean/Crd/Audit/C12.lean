import Crd.Props.C12
import Crd.Props.IO
#print axioms Crd.Props.C12.sites_accounted
#print axioms Crd.Props.C12.adj_unique
#print axioms Crd.Props.C12.adjustSemitone_eq
#print axioms Crd.Props.C12.adjust_order_irrelevant
#print axioms Crd.Props.C12.semitone_order_irrelevant
#print axioms Crd.Props.C12.nacc_spellings_disjoint
#print axioms Crd.Props.C12.accidental_order_irrelevant
#print axioms Crd.Props.C12.inverted_tables_injective
#print axioms Crd.Props.C12.inverse_maps_order_irrelevant
#print axioms Crd.Props.C12.key_signature_map_order_irrelevant
#print axioms Crd.Props.C12.chain_order_irrelevant
#print axioms Crd.Props.C12.listings_sorted
#print axioms Crd.Props.C12.validation_order_irrelevant
#print axioms Crd.Props.C12.meta_marshal_order_irrelevant
#print axioms Crd.Props.IO.io_sites_accounted
