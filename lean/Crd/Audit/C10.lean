import Crd.Props.C10
import Crd.Props.C10Conv
import Crd.Props.IO
#print axioms Crd.Props.C10.degree_survives
#print axioms Crd.Props.C10.key_survives
#print axioms Crd.Props.C10.fraction_survives
#print axioms Crd.Props.C10.dynamic_survives
#print axioms Crd.Props.C10.bpm_survives
#print axioms Crd.Props.C10.text_survives
#print axioms Crd.Props.C10.instance_survives
#print axioms Crd.Props.C10.mapM_roundtrip
#print axioms Crd.Props.C10.text_conv_output_readable
#print axioms Crd.Props.C10.decoded_is_valid
#print axioms Crd.Props.C10.decoded_all_valid
#print axioms Crd.Props.C10.key_pattern_modelled
#print axioms Crd.Props.C10.override_valid
#print axioms Crd.Props.C10.modifyCmt_valid
#print axioms Crd.Props.C10.prepare_valid
#print axioms Crd.Props.C10.write_conv_output_readable
#print axioms Crd.Props.C10.override_idem
#print axioms Crd.Props.C10.prepare_idem
#print axioms Crd.Props.C10.write_conv_then_write
#print axioms Crd.Props.C10.exRead_eq
#print axioms Crd.Props.IO.io_sites_accounted
