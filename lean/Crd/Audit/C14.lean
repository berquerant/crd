import Crd.Props.C14
import Crd.Props.IO
#print axioms Crd.Props.C14.absStep_mem
#print axioms Crd.Props.C14.rings_aligned
#print axioms Crd.Props.C14.circles_build
#print axioms Crd.Props.C14.slot_ne_nil
#print axioms Crd.Props.C14.slot_mode
#print axioms Crd.Props.C14.slot_index
#print axioms Crd.Props.C14.slot_move
#print axioms Crd.Props.C14.required_slot
#print axioms Crd.Props.C14.pos_unique
#print axioms Crd.Props.C14.step_semantics
#print axioms Crd.Props.C14.chainStep_slot
#print axioms Crd.Props.C14.chainFold_slot
#print axioms Crd.Props.C14.chain_is_composition
#print axioms Crd.Props.C14.chain_congr
#print axioms Crd.Props.C14.spelling_independent
#print axioms Crd.Props.C14.foldl_mem_positions
#print axioms Crd.Props.C14.move_laws
#print axioms Crd.Props.C14.chain_laws
#print axioms Crd.Props.C14.replicate_rotate
#print axioms Crd.Props.C14.dominants_rotate
#print axioms Crd.Props.C14.subdominants_rotate
#print axioms Crd.Props.C14.positions_lt
#print axioms Crd.Props.C14.net_rotation
#print axioms Crd.Props.IO.io_sites_accounted
